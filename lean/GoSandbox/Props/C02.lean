/-
C02 — File-access policy is consulted about the object the kernel will really touch.
Theorems about Model/PathResolve.lean: the hand model of the repaired resolveTraceePath computes
exactly the kernel's resolution (`Walk`) for every file system, start directory, component list
and link budget, and terminates; facts about the regenerated Go functions by kernel evaluation.
PROPERTY THEOREMS ONLY (the lemmas about `resolve` are in Lemmas/PathResolve.lean).
-/
import GoSandbox.Model.PathResolve
import GoSandbox.Model.PathDispatch
import GoSandbox.Lemmas.PathResolve
namespace GoSandbox.Props.C02
open GoSandbox.Model.PathResolve GoSandbox.Model.PathDispatch GoSandbox.Lemmas.PathResolve

/-- **soundness**: a path the resolver presents (without having hit the link cap) is the path the
kernel's own resolution arrives at — for every file system, directory, pathname, budget. -/
theorem C02_resolve_sound (fs : FS) : ∀ (fuel : Nat) (cur : CPath) (todo : List Comp) (b : Nat) (r : CPath),
    resolve fs fuel cur todo b = some (r, false) → Walk fs cur todo b r := by
  intro fuel cur todo b
  -- `fun_induction` numbers the cases in the order of `resolve`'s definition: 1 no fuel, 2 `[]`, 3 `""` or `"."`, 4 `".."`,
  -- 5 a link with no budget left (the cap), 6 a link, 7 anything else; 2, 3, 4, 6, 7 are the constructors of `Walk`
  fun_induction resolve fs fuel cur todo b with
  | case1 => simp
  | case2 => intro r h; cases h; exact .done ..
  | case3 _ _ _ _ _ hc ih => exact fun r h => .skip _ _ _ _ _ hc (ih r h)
  | case4 _ _ _ _ _ ih => exact fun r h => .up _ _ _ _ (ih r h)
  | case5 => simp  -- the cap: the answer carries `true`
  | case6 _ _ _ _ h1 h2 _ _ hn _ ih =>
    exact fun r h => .link _ _ _ _ _ _ _ (h1 ∘ Or.inl) (h1 ∘ Or.inr) h2 hn (ih r h)
  | case7 _ _ _ _ _ h1 h2 hl ih =>
    exact fun r h => .plain _ _ _ _ _ (h1 ∘ Or.inl) (h1 ∘ Or.inr) h2 (isLink_eq_false.mpr hl) (ih r h)

/-- **completeness**: whenever the kernel's resolution exists, the resolver (given enough loop
iterations) presents exactly that path. -/
theorem C02_resolve_complete (fs : FS) (cur : CPath) (todo : List Comp) (b : Nat) (r : CPath)
    (h : Walk fs cur todo b r) : ∃ fuel, ∀ fuel', fuel ≤ fuel' → resolve fs fuel' cur todo b = some (r, false) :=
  (resolve_of_walk h).imp fun _ hn _ hm => resolve_mono hm hn

/-- **the kernel's resolution is a function** (so "the" object the kernel touches is well defined) -/
theorem C02_walk_deterministic (fs : FS) (cur : CPath) (todo : List Comp) (b : Nat) (r r' : CPath)
    (h : Walk fs cur todo b r) (h' : Walk fs cur todo b r') : r = r' :=
  let ⟨_, hn⟩ := resolve_of_walk h
  let ⟨_, hm⟩ := resolve_of_walk h'
  (Prod.mk.inj (resolve_unique hn hm)).1

/-- **termination**: if no symlink target has more than `L` components, the loop needs at most
`|todo| + b·L + 1` iterations — for every file system (no run-away on symlink cycles). -/
theorem C02_resolve_terminates (fs : FS) (L : Nat)
    (hL : ∀ p a t, fs.node p = some (.link a t) → t.length ≤ L) :
    ∀ (fuel : Nat) (cur : CPath) (todo : List Comp) (b : Nat),
      todo.length + b * L < fuel → (resolve fs fuel cur todo b).isSome = true := by
  intro fuel cur todo b
  fun_induction resolve fs fuel cur todo b with  -- cases numbered as in `C02_resolve_sound`
  | case1 => omega
  | case2 => simp
  | case6 _ _ _ _ _ _ _ _ hn _ ih =>
    -- a link puts at most `L` components in front of `rest` and pays one unit of budget, worth `L`
    intro h
    have := hL _ _ _ hn
    simp only [List.length_cons, Nat.succ_mul] at h
    exact ih (by rw [List.length_append]; omega)
  -- every other iteration takes one component off `todo` and leaves the budget as it is
  | case3 _ _ _ _ _ _ ih | case4 _ _ _ _ _ ih | case5 _ _ _ _ _ _ _ _ _ ih | case7 _ _ _ _ _ _ _ _ ih =>
    intro h
    simp only [List.length_cons, Option.isSome_map] at h ⊢
    exact ih (by omega)

/-- **the cap is the kernel's ELOOP**: when the resolver reports the cap, the kernel's resolution
does not exist within that budget (the call fails; no object is touched). -/
theorem C02_capped_means_no_resolution (fs : FS) (fuel : Nat) (cur : CPath) (todo : List Comp) (b : Nat) (r r' : CPath)
    (h : resolve fs fuel cur todo b = some (r, true)) : ¬ Walk fs cur todo b r' :=
  fun hw => let ⟨_, hn⟩ := resolve_of_walk hw; nomatch resolve_unique h hn

/-- non-vacuity and the shape of the repaired defect: `link/../x` with link → /a/b is /a/x for the
kernel and for the resolver (the pinned tree answered /w/x). -/
def exFS : FS where
  node p := if p = ["w", "link"] then some (.link true ["", "a", "b"]) else none

example : resolve exFS 50 ["w"] ["link", "..", "x"] 40 = some (["a", "x"], false) := by decide
example : Walk exFS ["w"] ["link", "..", "x"] 40 ["a", "x"] :=
  C02_resolve_sound exFS 50 _ _ _ _ (by decide)

/-! ### access class from the open flags -/

/-- **any open that can create, truncate or write is a write** — for every flag word -/
theorem C02_open_class (flags : Nat) : isOpenReadOnly flags = true → mayModify flags = false := by
  simp +contextual [isOpenReadOnly, mayModify]

/-- the regenerated isOpenReadOnly agrees with the hand model on every combination of the bits it
looks at (access mode, O_CREAT, O_EXCL, O_TRUNC), with and without unrelated bits set -/
theorem C02_gen_open_class :
    relevantFlagWords.all (fun f => genIsOpenReadOnly f == some (isOpenReadOnly f)) = true := by decide +kernel

/-! ### which arguments are the (directory descriptor, pathname) pair, and which class -/

/-- **dispatch**: for every path syscall the handler traps, the regenerated `Handle` passes the
argument registers the Linux ABI designates as (dirfd, pathname) to the check of the right class
(symlinkat: (newdirfd, linkpath) = registers 1, 2). -/
theorem C02_dispatch_matches_abi :
    abiTable.all (fun e => genDispatch e.1 == some e.2) = true := by decide +kernel

/-- every directory-descriptor argument is decoded as `int(int32(register))` -/
theorem C02_dirfd_sites_are_int32 : dirfdSites.all isInt32Chain = true ∧ dirfdSites.length ≥ 12 := by decide +kernel

/-- **AT_FDCWD in any register encoding**: the kernel reads the low 32 bits of the register as a
signed int; `int(int32(reg))` yields the same value for every 64-bit register content — in
particular -100 whether the upper half is zero- or sign-extended. -/
theorem C02_dirfd_decode (reg : Nat) (h : reg < 2 ^ 64) : decodeDirfd reg = kernelDirfd reg := by
  unfold decodeDirfd kernelDirfd
  simp only [GoSandbox.GoLite.conv, GoSandbox.GoLite.wrapS]
  omega

example : decodeDirfd 0xffffff9c = -100 ∧ decodeDirfd 0xffffffffffffff9c = -100 := by decide

/-! ### the regenerated resolver on concrete forests (evaluated by the kernel) -/

theorem C02_gen_resolver_cases :
    genCases.all (fun c => match genResolve c.1 c.2.1 c.2.2.1 with | .ok s => s == c.2.2.2 | .error _ => false) = true ∧
    genCases.all (fun c => modelResolve c.1 c.2.1 c.2.2.1 == some (c.2.2.2, false)) = true := by decide +kernel

/-- **the link budget is the kernel's** — the constant: the resolver's `maxSymlinkDepth` (read from the source on
every run) is 40, the number of links the kernel follows in one lookup (MAXSYMLINKS) — and the comparison: with
the budget set to `b` = 2, 3, 4 in the regenerated resolveTraceePath and in the hand model alike, a lookup that
needs up to exactly `b` link expansions is resolved to its real target by both, and with `b+1`, `b+2` links both
report the cap, at the same place.  (An off-by-one presents the b-th link itself while the kernel opens what it
points to; the unbounded statement for the hand model is `C02_capped_means_no_resolution` / `C02_resolve_complete`.) -/
theorem C02_gen_link_budget :
    Gen.C02.maxSymlinkDepth = 40 ∧
    [2, 3, 4].all (fun b =>
      [b - 1, b].all (fun n =>
        (match genResolveB b (chainWorld n) "/w" "cx" with | .ok s => s == "/a/t" | .error _ => false) &&
        modelResolveB b (chainWorld n) "/w" "cx" == some ("/a/t", false)) &&
      [b + 1, b + 2].all (fun n =>
        match genResolveB b (chainWorld n) "/w" "cx", modelResolveB b (chainWorld n) "/w" "cx" with
        | .ok s, some (m, capped) => capped && s == m && s != "/a/t"
        | _, _ => false)) = true := by
  decide +kernel

end GoSandbox.Props.C02
