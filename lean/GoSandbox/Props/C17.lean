/-
C17 — Concurrent sandboxes in one process are independent.
Theorems about Model/Concurrent.lean over ALL schedules and any number of runs, for the three
mechanisms the code relies on, plus the structural facts about the regenerated source that
instantiate their hypotheses.  What a theorem cannot carry here — the Go scheduler, the kernel's
fork/wait/ptrace — is exercised by the 16-way concurrent differential (harness).
PROPERTY THEOREMS ONLY (the lemmas they rest on are in Lemmas/Concurrent.lean).
-/
import GoSandbox.Model.Concurrent
import GoSandbox.Model.ForkFail
import GoSandbox.Lemmas.Concurrent
namespace GoSandbox.Props.C17
open GoSandbox.Model.Concurrent

/-! ### (A) no run's program inherits another run's descriptor -/

/-- **descriptor isolation**: if every descriptor is created close-on-exec atomically, then for
every schedule of creations, closes and forks of any number of runs, no forked program inherits a
descriptor of another run. -/
theorem C17_no_foreign_descriptors (evs : List FEv) (h : allAtomic evs = true) :
    ∀ e ∈ (frun evs {}).leaked, e.2 = [] := by
  refine (List.foldlRecOn evs fstep (b := {})
    (motive := fun s => (∀ f ∈ s.table, f.cloexec = true) ∧ ∀ e ∈ s.leaked, e.2 = [])
    ⟨List.forall_mem_nil _, List.forall_mem_nil _⟩ ?_).2
  rintro s ⟨ht, hl⟩ ev hev
  have ha := List.all_eq_true.mp h ev hev
  cases ev with
  | create r i c => exact ⟨List.forall_mem_cons.mpr ⟨ha, ht⟩, hl⟩
  | setCloexec i =>
    refine ⟨fun f hf => ?_, hl⟩
    obtain ⟨g, hg, rfl⟩ := List.mem_map.mp hf
    split
    · rfl
    · exact ht g hg
  | close i => exact ⟨fun f hf => ht f (List.mem_filter.mp hf).1, hl⟩
  | fork r =>
    refine ⟨ht, List.forall_mem_cons.mpr ⟨?_, hl⟩⟩
    -- no descriptor passes the filter `!f.cloexec && …`
    exact List.map_eq_nil_iff.mpr (List.filter_eq_nil_iff.mpr fun f hf => by simp [ht f hf])

/-- witness: one creation that sets close-on-exec afterwards (non-atomically) leaks into a
concurrent fork of another run -/
example : (frun [.create 1 7 false, .fork 2, .setCloexec 7] {}).leaked = [(2, [7])] := by decide

/-! ### (B) no tracer collects another run's process -/

/-- **wait isolation**: with the selectors the code uses — the run's root pid, or its process
group — a wait of run `i` can only return processes of run `i`, for any set of runs and processes. -/
theorem C17_wait_only_own (root : Nat → Nat) (ps : List Proc) (hw : WellGrouped root ps) (i : Nat) (p : Proc) (hp : p ∈ ps)
    (s : Sel) (hs : s = .pid (root i) ∨ s = .group (root i)) (hm : selects s p = true) : p.run = i := by
  obtain ⟨hg, hinj, hroot⟩ := hw
  rcases hs with rfl | rfl <;> simp only [selects, beq_iff_eq] at hm
  · exact hroot p hp i hm
  · exact hinj _ _ ((hg p hp).symm.trans hm)

/-- witness: wait4(-1) returns anybody's process -/
example : selects .any ⟨10, 10, 2⟩ = true := rfl

/-! ### (C) a caller receives the reply to its own request -/

/-- **RPC isolation**: with the mutex held around every request/reply pair, for every schedule of
any number of concurrent callers on one environment, every caller receives the reply to its own
request. -/
theorem C17_reply_is_own (evs : List REv) : ∀ e ∈ (rrun true evs {}).got, e.1 = e.2 :=
  (List.foldlRecOn evs (rstep true) (b := {}) (motive := Lemmas.Concurrent.RInv) ⟨List.forall_mem_nil _, .inl rfl⟩
    fun _ h e _ => Lemmas.Concurrent.rstep_inv e h).1

/-- witness: without the mutex a caller receives the other caller's reply -/
example : (rrun false [.send 1, .send 2, .serve, .recv 2] {}).got = [(2, 1)] := by decide

/-- non-vacuity of the locked protocol: two complete calls -/
example : (rrun true [.acquire 1, .acquire 2, .send 1, .send 2, .serve, .recv 2, .recv 1, .release 1, .acquire 2, .send 2, .serve, .recv 2, .release 2] {}).got = [(2, 2), (1, 1)] := by decide

/-! ### the source satisfies the hypotheses (regenerated facts) -/

/-- every host-side wait4 selects the run's own child or group; Trace pins its OS thread first;
the fork lock surrounds the clone; every raw descriptor creation is atomically close-on-exec;
every method that talks on the control socket runs under the environment mutex. -/
theorem C17_source_facts :
    waitSitesOwn = true ∧ tracePinned = true ∧ forkLockAroundClone = true ∧ creationsAtomic = true ∧ rpcUnderMutex = true := by
  decide +kernel

/-! ### a descriptor another run's child still holds: the launch waits for it instead of failing -/
section Etxtbsy
open GoSandbox.Model.ForkFail GoSandbox.Model.ForkSkeleton GoSandbox.Model.ForkOpts GoSandbox.Model.ForkChildRun

/-- option sets around the exec step: with and without a filter, an exec descriptor, a synchronisation callback,
a tracer, namespaces and a capability drop -/
def etxtbsyFamily : List Opts :=
  [{}, { seccomp := true, nnp := true }, { execFile := 7 }, { execFile := 7, seccomp := true, nnp := true, syncFunc := true },
   { seccomp := true, ptrace := true, stopBefore := true }, { seccomp := true, nnp := true, dropCaps := true, newUser := true, newPid := true, syncFunc := true },
   { cred := true, dropCaps := true, seccomp := true, nnp := true, ucas := true, syncFunc := true, newCgroup := true }]

/-- **a program file that another run's child still holds open for writing** (the child was forked by another
goroutine while the caller was writing the file, and has not exec'ed yet: a copy of every descriptor of the process
lives in it until then) makes `execve` answer ETXTBSY for a moment.  The regenerated launch code does not fail the
run for that: for every option set of the family — in particular with a seccomp filter already loaded — an
ETXTBSY at the exec step is followed by a pause and another exec, and the program starts. (The tolerance itself is
bounded: 50 attempts a millisecond apart; beyond that the launch fails with the error.) -/
theorem C17_gen_etxtbsy_retried :
    etxtbsyFamily.all (fun o =>
      let k := (skeleton o).length - 1
      ((skeleton o).getD k .getpid == .execve || (skeleton o).getD k .getpid == .execveat) &&
      (match runFail o k 26 with
       | .ok r => r.execed && r.exitCode == none && r.reported == none
       | .error _ => false)) = true := by
  decide +kernel

end Etxtbsy

end GoSandbox.Props.C17
