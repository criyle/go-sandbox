/-
C06 — The program's descriptor table is exactly the caller's list, nothing more.
The subject is the *regenerated* `forkAndExecInChild` (Gen.ForkChild) run by the Go-lite
interpreter on an abstract descriptor table (Model/FdShuffleRun.lean).
`C06_shuffle_exact` is the unbounded theorem: for descriptor lists of ANY length and any layout of
the launcher's table, the hand model of the shuffle (Model/FdShuffle.lean: prepareFds' scratch start,
the moves of the sync pipe and the exec descriptor, pass 1, pass 2) leaves exactly the caller's list
after exec.  `C06_small_scope` is the kernel-evaluated tie of that model to the *regenerated*
forkAndExecInChild on an explicit family of layouts (a bounded statement, labelled as such); the
driver compares hand model, regenerated code and the property oracle exhaustively over all lists of
length ≤ 3 (quick) / ≤ 4 (thorough) on every run, and the harness launches real processes.
PROPERTY THEOREMS ONLY.
-/
import GoSandbox.Model.FdShuffleRun
import GoSandbox.Lemmas.FdShuffle
namespace GoSandbox.Props.C06
open GoSandbox.Model.FdShuffleRun

def M : Int := marker

/-- (files, p0, p1, exec, open descriptors, vfork) — order, repeats, gaps, overlaps with 0..n-1,
with the sync pipe and with the exec descriptor, the close marker, sources above the list length,
the exec descriptor in the slot right above everything (the former clobber slot). -/
def layouts : List (List Int × Nat × Nat × Nat × List Nat × Bool) := [
  ([], 3, 4, 0, [0, 1, 2, 3, 4], true),
  ([], 3, 0, 1, [0, 1, 3], true),                         -- former witness: pipe 0, exec 1
  ([], 3, 0, 1, [0, 1, 3], false),
  ([0], 3, 2, 1, [0, 1, 2, 3], true),                     -- former witness of the vfork write-back
  ([0, 1, 2], 3, 4, 0, [0, 1, 2, 3, 4], true),            -- identity
  ([2, 1, 0], 3, 4, 0, [0, 1, 2, 3, 4], false),           -- reversal
  ([1, 0], 5, 6, 0, [0, 1, 5, 6], true),                  -- swap
  ([5, 5, 5], 3, 4, 0, [3, 4, 5], true),                  -- repeats of a high source
  ([0, 0, 0], 6, 3, 2, [0, 2, 3, 6], true),               -- repeats of a low source, exec inside 0..n-1
  ([M, 0, M], 4, 5, 0, [0, 4, 5], false),                 -- close markers
  ([5, 1, 0], 100, 101, 0, [0, 1, 2, 5, 100, 101], false),
  ([40, 41, 42], 3, 4, 43, [0, 1, 2, 3, 4, 40, 41, 42, 43], true),   -- former witness: exec = max+1 above the pipe
  ([40, 41, 42], 3, 4, 43, [0, 1, 2, 3, 4, 40, 41, 42, 43], false),
  ([3, 4], 0, 1, 2, [0, 1, 2, 3, 4], true),               -- pipe at 0/1 (inside the target range), exec at 2
  ([1, 1], 0, 2, 3, [0, 1, 2, 3], false),
  ([2, 0, 1], 4, 1, 5, [0, 1, 2, 4, 5], true),            -- the pipe is itself a listed number
  ([4, M, 4, 0], 1, 2, 3, [0, 1, 2, 3, 4], true),
  ([0, 4, M], 6, 7, 1, [0, 1, 4, 6, 7], true),
  ([7, 6, 5, 4], 0, 1, 2, [0, 1, 2, 4, 5, 6, 7], false),
  ([1, 2, 3, 0], 8, 4, 5, [0, 1, 2, 3, 4, 5, 8], true)]

private theorem all_and {α : Type} {l : List α} {p q : α → Bool} (h : l.all (fun x => p x && q x) = true) :
    l.all p = true ∧ l.all q = true := by
  simp only [List.all_eq_true, Bool.and_eq_true] at h ⊢
  exact ⟨fun x hx => (h x hx).1, fun x hx => (h x hx).2⟩

/- `okLayout` and `handAgrees` start with the same run of the regenerated child, by far the dearest part of
either; the kernel shares it only when both are evaluated inside one declaration. -/
private theorem sweep :
    layouts.all (fun l => okLayout l.1 l.2.1 l.2.2.1 l.2.2.2.1 l.2.2.2.2.1 l.2.2.2.2.2 &&
      handAgrees l.1 l.2.1 l.2.2.1 l.2.2.2.1 l.2.2.2.2.1 l.2.2.2.2.2) = true := by
  decide +kernel

/-- **C06 (small scope, kernel-evaluated on the regenerated child)**: on every layout of the
family the descriptor table at exec is exactly `i ↦ file(Files[i])` with close-on-exec cleared and
nothing else open, the descriptor handed to `execveat` is the caller's file, the child did not
fail, and under vfork the caller's Runner is unchanged.  Hypotheses as in the driver: every
descriptor of the launcher is close-on-exec; pipe ends, exec descriptor pairwise distinct. -/
theorem C06_small_scope :
    layouts.all (fun l => okLayout l.1 l.2.1 l.2.2.1 l.2.2.2.1 l.2.2.2.2.1 l.2.2.2.2.2) = true :=
  (all_and sweep).1

/-- **tie of the hand model**: on every layout of the family the regenerated child and the hand
model of the shuffle (the subject of `C06_shuffle_exact`) leave the same table and hand the same
file to `execveat` -/
theorem C06_hand_model_tie :
    layouts.all (fun l => handAgrees l.1 l.2.1 l.2.2.1 l.2.2.2.1 l.2.2.2.2.1 l.2.2.2.2.2) = true :=
  (all_and sweep).2

/-- (files, p0, p1, exec, open descriptors, vfork, inheritable descriptors of the launcher): the
launcher holds descriptors that are NOT close-on-exec at numbers inside `0..n-1` — at a slot marked
"close", at a listed slot, and both — as a process does whose own stdio is inheritable. -/
def layoutsInh : List (List Int × Nat × Nat × Nat × List Nat × Bool × List Nat) := [
  ([M, 4, 4], 5, 6, 0, [0, 1, 2, 4, 5, 6], true, [0]),            -- marker on the launcher's inheritable stdin
  ([M, M, M], 3, 4, 0, [0, 1, 2, 3, 4], false, [0, 1, 2]),        -- every slot marked, all three inheritable
  ([5, M, 0], 6, 7, 8, [0, 1, 2, 5, 6, 7, 8], true, [0, 1, 2]),   -- marker between listed slots, exec above
  ([1, 0, M, M], 7, 8, 0, [0, 1, 2, 3, 7, 8], false, [2, 3]),     -- swap below two marked inheritable slots
  ([2, M], 0, 1, 3, [0, 1, 2, 3], true, [1]),                     -- the marked slot is the pipe's own number, inheritable
  ([M], 3, 4, 0, [0, 3, 4], true, [0])]

private theorem sweepInh :
    layoutsInh.all (fun l => okLayout l.1 l.2.1 l.2.2.1 l.2.2.2.1 l.2.2.2.2.1 l.2.2.2.2.2.1 l.2.2.2.2.2.2 &&
      handAgrees l.1 l.2.1 l.2.2.1 l.2.2.2.1 l.2.2.2.2.1 l.2.2.2.2.2.1 l.2.2.2.2.2.2) = true := by
  decide +kernel

/-- **C06 (small scope) with a launcher that holds inheritable descriptors inside `0..n-1`**: the
table at exec is still exactly the caller's list — a slot marked "close" is closed whatever the
launcher had there (kernel-evaluated on the regenerated child) -/
theorem C06_small_scope_inheritable :
    layoutsInh.all (fun l => okLayout l.1 l.2.1 l.2.2.1 l.2.2.2.1 l.2.2.2.2.1 l.2.2.2.2.2.1 l.2.2.2.2.2.2) = true :=
  (all_and sweepInh).1

/-- the hand model agrees with the regenerated child on those layouts too -/
theorem C06_hand_model_tie_inheritable :
    layoutsInh.all (fun l => handAgrees l.1 l.2.1 l.2.2.1 l.2.2.2.1 l.2.2.2.2.1 l.2.2.2.2.2.1 l.2.2.2.2.2.2) = true :=
  (all_and sweepInh).2

/-- the oracle itself, on a reading example: `[5, marker, 0]` means fd0 = file of 5, fd1 closed, fd2 = file of 0 -/
example : expectTable [5, M, 0] = [(0, 1005), (2, 1000)] := by decide +kernel
example : layouts.length = 20 := by decide

/-! ### the unbounded theorem about the shuffle -/

open GoSandbox.Model.FdShuffle GoSandbox.Lemmas.FdShuffle in
/-- **C06 for every descriptor list** (hand model of the shuffle).  Whatever the launcher's
descriptor table `t` (close-on-exec at every number at or above the list length: Go opens everything
so; below the list length the launcher may hold inheritable descriptors, e.g. its own stdio), the list `files` (any length; any
order, repeats, gaps; `none` = close marker), the sync pipe and the optional exec descriptor
(distinct from each other; they may lie anywhere, also inside `0..n-1` or among the listed numbers):
after the shuffle and `execve`
* descriptor `k < n` is the file the caller listed at position `k` (closed for a marker),
* nothing else is open,
* the pipe and the exec descriptor still refer to their files, at numbers ≥ n (so pass 2 did not
  overwrite them) — `execveat` runs the caller's file and errors can still be reported. -/
theorem C06_shuffle_exact (t : Table) (files : List (Option Nat)) (pipe : Nat) (exec : Option Nat)
    (hcx : ∀ k e, t k = some e → files.length ≤ k → e.2 = true) (hne : exec ≠ some pipe) :
    (∀ (k f : Nat), files[k]? = some (some f) → atExec (shuffle t files pipe exec).t k = fileAt t f) ∧
    (∀ k : Nat, files[k]? = some none → atExec (shuffle t files pipe exec).t k = none) ∧
    (∀ k, files.length ≤ k → atExec (shuffle t files pipe exec).t k = none) ∧
    (fileAt (shuffle t files pipe exec).t (shuffle t files pipe exec).pipe = fileAt t pipe ∧ files.length ≤ (shuffle t files pipe exec).pipe) ∧
    (∀ e, exec = some e → ∃ e', (shuffle t files pipe exec).exec = some e' ∧
        fileAt (shuffle t files pipe exec).t e' = fileAt t e ∧ files.length ≤ e') := by
  -- `hne` is not used: `shuffle_spec` holds of any table, pipe and exec descriptor
  obtain ⟨h1, h2, h3, h4, h5, h6⟩ := shuffle_spec t files pipe exec
  refine ⟨fun k f hk => h1 k _ hk, fun k hk => h1 k _ hk,
    fun k hk => h2 k hk (atExec_eq_none.2 fun e he => hcx k e he hk), ⟨h3, h4⟩, fun e he => ?_⟩
  obtain ⟨e', he', hf⟩ := Option.map_eq_some_iff.1 (h5.trans (congrArg (Option.map (fileAt t)) he))
  exact ⟨e', he', hf, h6 e' he'⟩

open GoSandbox.Model.FdShuffle in
/-- non-vacuity: reversal with the pipe inside the target range and an exec descriptor right above -/
example :
    let t : Table := fun k => if k < 6 then some (1000 + k, true) else none
    let o := shuffle t [some 2, some 1, some 0, none, some 2] 1 (some 5)
    ((List.range 8).map (atExec o.t) = [some 1002, some 1001, some 1000, none, some 1002, none, none, none]) ∧
    fileAt o.t o.pipe = some 1001 ∧ (o.exec.bind (fileAt o.t)) = some 1005 := by decide

end GoSandbox.Props.C06
