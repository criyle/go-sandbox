/-
C05 — FS confinement: only configured mounts visible; read-only means read-only.
Theorems about Model/MountNS.lean for EVERY mount table: after the mount sequence the namespace
consists of the read-only root and exactly the configured mounts with their declared read-only
bits (and the container's masks), the host's root tree is detached, old_root is gone, and every
directory made in the root is a prefix of a configured target or of a symlink's path.  Facts tying
the sequence to the regenerated code are in the second half.  PROPERTY THEOREMS ONLY; the lemmas
about the model that they rest on are in Lemmas/MountNS.lean.
-/
import GoSandbox.Lemmas.MountNS
import GoSandbox.Model.MountGen
namespace GoSandbox.Props.C05
open GoSandbox.Model.MountNS

private theorem posAux_setRo (ms : List Mnt) : ∀ (j : Nat) (ro : Bool) (k : Nat) (cur : Nat × Path),
    posAux (setRo ms j ro) k cur = posAux ms k cur := by
  induction ms with
  | nil => intro j ro k cur; simp [setRo]
  | cons m r ih =>
    intro j ro k cur
    cases j with
    | zero => simp [setRo, posAux, remap]
    | succ j => simp [setRo, posAux, ih]

/-- nothing but `dirs` changes -/
def Frame (ns ns' : NS) : Prop :=
  ns'.mounts = ns.mounts ∧ ns'.host = ns.host ∧ ns'.links = ns.links ∧ ns'.pivoted = ns.pivoted ∧ ns'.priv = ns.priv

/-- what one table entry looks like once mounted -/
def specMnt (ns : NS) (m : MSpec) : Mnt :=
  ⟨(lookup ns m.target).1, (lookup ns m.target).2, m.target, m.fs, m.rdonly⟩

/-- **one table entry**: its operations add exactly one mount with the declared read-only bit —
for a read-only bind thanks to the remount, which lands on the mount just made — and create only
prefixes of its target. -/
theorem C05_one_mount (m : MSpec) (ns ns' : NS) (hroot : ns.mounts ≠ []) (h : run (opsForMount m) ns = some ns') :
    ∃ mid : NS, Frame ns mid ∧ ns'.mounts = ns.mounts ++ [specMnt mid m] ∧ ns'.host = ns.host ∧ ns'.links = ns.links ∧
      ns'.pivoted = ns.pivoted ∧ ns'.priv = ns.priv ∧ ∀ d ∈ ns'.dirs, d ∈ ns.dirs ∨ d ∈ m.target :: prefixes m.target := by
  obtain ⟨ds, rfl, hd⟩ := Lemmas.MountNS.run_opsForMount m h
  -- `mid := ns` will do: `specMnt` reads only the mounts, which the directory operations leave alone
  exact ⟨ns, ⟨rfl, rfl, rfl, rfl, rfl⟩, rfl, rfl, rfl, rfl, rfl, hd⟩

def specView (m : MSpec) : Path × Fs × Bool := (m.target, m.fs, m.rdonly)
def maskView (m : Path × Bool) : Path × Fs × Bool := (m.1, if m.2 then Fs.emptyTmpfs else Fs.devnull, m.2)

/-- **the namespace of the sandboxed program, for every mount table** (both implementations; the raw
child has no symlinks and masks): if the sequence succeeds, then
* the mounts are the root tmpfs, read-only, followed by exactly the configured entries — each with
  its declared file system and read-only bit — followed by the masks;
* the host's root tree is detached (nothing of it is reachable, not even through old_root) and the
  namespace was made private first: later mount events of the host do not propagate into it;
* every directory made in the root is a prefix of a configured target or symlink path. -/
theorem C05_namespace (ms : List MSpec) (x : Extra) (ns' : NS) (h : run (opsFor ms x) {} = some ns') :
    ns'.mounts.map view = (([], Fs.rootTmpfs, true) : Path × Fs × Bool) :: (ms.map specView ++ x.masks.map maskView) ∧
    ns'.host = none ∧ ns'.pivoted = true ∧ ns'.priv = true ∧
    ∀ d ∈ ns'.dirs, (∃ m ∈ ms, d ∈ m.target :: prefixes m.target) ∨ (∃ l ∈ x.symlinks, d ∈ prefixes l.1.dropLast) := by
  obtain ⟨M, ds, rfl, hM, hd⟩ := Lemmas.MountNS.run_opsFor h
  exact ⟨congrArg (_ :: ·) hM, rfl, rfl, rfl, hd⟩

/-- **read-only means read-only, writable means writable**: a path is writable exactly when the
mount it lands in was not made read-only — in particular nothing in the root itself is. -/
theorem C05_writable_iff (ns : NS) (p : Path) (m : Mnt) (h : ns.mounts[(lookup ns p).1]? = some m) :
    writable ns p = !m.ro := by
  simp [writable, h]

/-- non-vacuity: a table with a nested read-only file bind, a tmpfs, read-only proc, a mask and a symlink -/
def exTable : List MSpec :=
  [⟨["usr"], .host "/usr", true, true, false⟩, ⟨["w"], .tmpfs, false, false, false⟩,
   ⟨["usr", "x"], .host "/etc/passwd", true, true, true⟩, ⟨["proc"], .proc, false, true, false⟩]
def exExtra : Extra := { masks := [(["proc", "acpi"], true)], symlinks := [(["dev", "fd"], "/proc/self/fd")] }

example : (match run (opsFor exTable exExtra) {} with
    | some ns => writable ns ["w", "a"] && !writable ns ["usr", "bin"] && !writable ns ["usr", "x"] && !writable ns ["new"] &&
        !writable ns ["proc", "acpi", "f"] && ns.host.isNone && ns.priv
    | none => false) = true := by decide +kernel

/-! ### the regenerated code produces that sequence (evaluated by the kernel) -/

open GoSandbox.Model.MountGen in
/-- mount tables for the tie: read-only and writable directory binds, read-only and writable file
binds (top level and nested inside another bind), tmpfs, proc read-only and read-write, a deep target -/
def tieTables : List (List Entry) := [
  [],
  [.bind "/usr" "usr" true false, .tmpfs "w", .bind "/etc/passwd" "usr/x" true true, .proc false, .bind "/data" "data/deep" false false],
  [.bind "/f" "f" true true, .bind "/g" "g" false true, .proc true, .tmpfs "tmp", .tmpfs "a/b/c"],
  [.bind "/lib" "lib" true false, .bind "/lib64" "lib64" true false, .bind "/bin" "bin" true false, .bind "/usr" "usr" true false, .tmpfs "w", .tmpfs "tmp", .proc false]]

private theorem ok_of_toOption {ε α} {r : Except ε α} {x : α} (h : r.toOption = some x) : r = .ok x := by
  cases r <;> simp_all [Except.toOption]

open GoSandbox.Model.MountGen in
/-- Both traces in one evaluation: the two runs on a table start from the same `builtMounts es`, which the
kernel then computes once per table (its cache does not reach across declarations). -/
private theorem gen_ops : ∀ es ∈ tieTables,
    let sl := [("/dev/fd", "/proc/self/fd"), ("/a/b/link", "/w")]
    let mk := [("/proc/acpi", true), ("/proc/kcore", false), ("/sys/firmware", true)]
    (genRawOps es).toOption = some (opsFor (tableOf es) {}) ∧
    (genContainerOps es sl mk).toOption = some (opsFor (tableOf es) (extraOf sl mk)) := by
  decide +kernel

open GoSandbox.Model.MountGen in
/-- **raw in-child implementation**: the syscall trace of the regenerated forkAndExecInChild, with the
table built by the regenerated Builder/pathPrefix/isBindMountFileOrNotExists, is the sequence of `opsFor` -/
theorem C05_gen_raw_matches :
    tieTables.all (fun es => match genRawOps es with | .ok a => a == opsFor (tableOf es) {} | .error _ => false) = true := by
  refine List.all_eq_true.mpr fun es hes => ?_
  simp [ok_of_toOption (gen_ops es hes).1]

open GoSandbox.Model.MountGen in
/-- **container implementation**: initFileSystem + Mount.Mount + ensureMountTargetExists + maskPath
produce the same sequence, followed by the symlinks, the masks (file: /dev/null bind; directory:
read-only empty tmpfs) and the read-only remount of the root -/
theorem C05_gen_container_matches :
    tieTables.all (fun es =>
      let sl := [("/dev/fd", "/proc/self/fd"), ("/a/b/link", "/w")]
      let mk := [("/proc/acpi", true), ("/proc/kcore", false), ("/sys/firmware", true)]
      match genContainerOps es sl mk with
      | .ok a => a == opsFor (tableOf es) (extraOf sl mk)
      | .error _ => false) = true := by
  refine List.all_eq_true.mpr fun es hes => ?_
  simp [ok_of_toOption (gen_ops es hes).2]

open GoSandbox.Model.MountGen in
/-- **no silent half-built root**: when a mask (or any step of the sequence) cannot be applied, the
regenerated initFileSystem reports the failure — it does not return success with the remaining
steps (later masks, the read-only remount of the root) skipped -/
theorem C05_gen_container_failure_is_reported :
    (match genContainerMaskFailure [.bind "/usr" "usr" true false, .tmpfs "w"] "/usr/secret" with
     | .ok claimedSuccess => !claimedSuccess
     | .error _ => false) = true := by
  decide +kernel

open GoSandbox.Model.MountGen in
/-- the builder's flag words: binds are MS_BIND|MS_REC|MS_PRIVATE|MS_NOSUID (+MS_RDONLY when declared),
tmpfs is NOSUID|NODEV|NOATIME, proc is NOSUID|NODEV|NOEXEC (+RDONLY unless writable) -/
theorem C05_builder_flags :
    (match builtFlags [.bind "/a" "a" true false, .bind "/a" "a" false false, .tmpfs "t", .proc false, .proc true] with
     | .ok [bro, brw, tm, pro, prw] =>
        let c := GoSandbox.Gen.Consts.unix_MS_BIND + GoSandbox.Gen.Consts.unix_MS_REC + GoSandbox.Gen.Consts.unix_MS_PRIVATE + GoSandbox.Gen.Consts.unix_MS_NOSUID
        bro == c + GoSandbox.Gen.Consts.unix_MS_RDONLY && brw == c &&
        tm == GoSandbox.Gen.Consts.unix_MS_NOSUID + GoSandbox.Gen.Consts.unix_MS_NODEV + GoSandbox.Gen.Consts.unix_MS_NOATIME &&
        prw == GoSandbox.Gen.Consts.unix_MS_NOSUID + GoSandbox.Gen.Consts.unix_MS_NODEV + GoSandbox.Gen.Consts.unix_MS_NOEXEC &&
        pro == prw + GoSandbox.Gen.Consts.unix_MS_RDONLY
     | _ => false) = true := by
  decide +kernel

end GoSandbox.Props.C05
