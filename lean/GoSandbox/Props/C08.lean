/-
C08 — Configured limits are in force; exhausting them yields the matching verdict.
PROPERTY THEOREMS ONLY.
-/
import GoSandbox.Model.RLimit
import GoSandbox.Model.Classify
import GoSandbox.Lemmas.RLimit
namespace GoSandbox.Props.C08
open GoSandbox.Model.RLimit GoSandbox.Model.Classify GoSandbox.Kernel

/-- **every configured limit yields exactly one entry with cur = max = the configured value**
(CPU: hard = max(CPUHard, CPU)); unconfigured (zero) fields yield none; for every record. -/
theorem C08_prepare_exact (r : RLimits) :
    (∀ e ∈ prepare r, e.1 = rCPU → r.cpu > 0 ∧ e.2.1 = r.cpu ∧ e.2.2 = max r.cpuHard r.cpu) ∧
    (r.cpu > 0 → (rCPU, r.cpu, max r.cpuHard r.cpu) ∈ prepare r) ∧
    (r.data > 0 ↔ (rDATA, r.data, r.data) ∈ prepare r) ∧
    (r.fileSize > 0 ↔ (rFSIZE, r.fileSize, r.fileSize) ∈ prepare r) ∧
    (r.stack > 0 ↔ (rSTACK, r.stack, r.stack) ∈ prepare r) ∧
    (r.addressSpace > 0 ↔ (rAS, r.addressSpace, r.addressSpace) ∈ prepare r) ∧
    (r.openFile > 0 ↔ (rNOFILE, r.openFile, r.openFile) ∈ prepare r) ∧
    (r.disableCore = true ↔ (rCORE, 0, 0) ∈ prepare r) := by
  -- `mem_prepare` lists the seven possible entries; an entry with a given resource can only be the one
  -- for that resource, the seven resource numbers being distinct constants (`+decide`)
  refine ⟨?_, ?_⟩
  · rintro ⟨k, c, m⟩ he (rfl : k = rCPU)
    simpa +decide [Lemmas.RLimit.mem_prepare] using he
  · simp +decide [Lemmas.RLimit.mem_prepare]

/-- in-order application of an entry list whose resources are pairwise distinct: a listed
resource ends with its listed pair, an unlisted one keeps what it had (is inherited). -/
theorem apply_not_mem (es : List Entry) : ∀ (init : Nat → Nat × Nat) (res : Nat),
    res ∉ es.map (·.1) → applyEntries init es res = init res := by
  induction es with
  | nil => intro init res _; rfl
  | cons e es ih =>
    intro init res h
    rw [List.map_cons, List.mem_cons, not_or] at h
    rw [Lemmas.RLimit.applyEntries_cons, ih _ res h.2]
    exact if_neg h.1

theorem apply_mem (es : List Entry) : ∀ (init : Nat → Nat × Nat) (res c m : Nat),
    (es.map (·.1)).Nodup → (res, c, m) ∈ es → applyEntries init es res = (c, m) := by
  induction es with
  | nil => intro _ _ _ _ _ h; cases h
  | cons e es ih =>
    intro init res c m hn hm
    rw [List.map_cons, List.nodup_cons] at hn
    rw [Lemmas.RLimit.applyEntries_cons]
    rcases List.mem_cons.mp hm with rfl | h
    · rw [apply_not_mem es _ res hn.1]
      exact if_pos rfl
    · exact ih _ res c m hn.2 h

theorem prepare_keys_nodup (r : RLimits) : ((prepare r).map (·.1)).Nodup :=
  (Lemmas.RLimit.prepare_keys_sublist r).nodup Lemmas.RLimit.keys_nodup

/-- **applied limits**: after the child applied the list in order, every configured resource has
exactly its configured (soft, hard) pair and every resource that was not configured keeps the
inherited pair. -/
theorem C08_applied (r : RLimits) (init : Nat → Nat × Nat) :
    (∀ res c m, (res, c, m) ∈ prepare r → applyEntries init (prepare r) res = (c, m)) ∧
    (∀ res, res ∉ (prepare r).map (·.1) → applyEntries init (prepare r) res = init res) :=
  ⟨fun res c m h => apply_mem _ init res c m (prepare_keys_nodup r) h, fun res h => apply_not_mem _ init res h⟩

/-- **usage verdict**: measured CPU time above the time bound is Time Limit Exceeded, peak memory
above the memory bound is Memory Limit Exceeded (memory takes precedence), and the result carries
the measured values (ns, bytes = KiB·1024); at or below both bounds the verdict is Normal. -/
theorem C08_usage_verdict (ut rss tl ml : Nat) :
    let r := checkUsage ut rss tl ml
    r.1 = ut ∧ r.2.1 = rss * 1024 ∧
    (rss * 1024 > ml → r.2.2 = .mle) ∧
    (rss * 1024 ≤ ml → ut > tl → r.2.2 = .tle) ∧
    (rss * 1024 ≤ ml → ut ≤ tl → r.2.2 = .normal) := by
  simp only [checkUsage]
  exact ⟨trivial, trivial, fun h => if_pos h, fun h1 h2 => (if_neg (Nat.not_lt.mpr h1)).trans (if_pos h2),
    fun h1 h2 => (if_neg (Nat.not_lt.mpr h1)).trans (if_neg (Nat.not_lt.mpr h2))⟩

/-- **capped collector**: whatever the chunking of the program's output, the collector retains at
most `cap` bytes, what it retains is a prefix of the output, and it consumes the whole output
(the drain after the capped copy reads until EOF, so the writer is never left blocked). -/
theorem C08_buffer_cap (cap : Nat) (chunks : List (List Nat)) :
    (collect cap chunks).1.length ≤ cap ∧ (collect cap chunks).1 <+: chunks.flatten ∧
    (collect cap chunks).2 = chunks.flatten.length :=
  ⟨List.length_take_le _ _, List.take_prefix _ _, rfl⟩

/-! ### ties to the regenerated code (kernel-evaluated; finite samples are tests of the tie) -/

def sampleRecords : List RLimits :=
  [0, 3].flatMap fun cpu => [0, 2, 9].flatMap fun hard => [0, 4294967297].flatMap fun data => [0, 5].flatMap fun fs =>
  [0, 7].flatMap fun st => [true, false].map fun core => ⟨cpu, hard, data, fs, st, data, fs, core⟩

/-- regenerated `PrepareRLimit` = hand model on a grid of records (zero/non-zero masks, values above 2^32, soft>hard). -/
theorem C08_tie_prepare :
    sampleRecords.all (fun r => match genPrepare r with | .ok es => es == prepare r | .error _ => false) = true := by
  decide +kernel

def usageGrid : List (Nat × Nat × Nat × Nat) :=
  [0, 5, 6].flatMap fun ut => [0, 4, 5].flatMap fun rss => [5].flatMap fun tl => [4096, 5119, 5120].map fun ml => (ut, rss, tl, ml)

def verdictNum : Verdict → Nat
  | .normal => Gen.Consts.runner_StatusNormal
  | .tle => Gen.Consts.runner_StatusTimeLimitExceeded
  | .mle => Gen.Consts.runner_StatusMemoryLimitExceeded

/-- regenerated `checkUsage` = hand model on the boundary grid (equal / one above / one below each bound). -/
theorem C08_tie_usage :
    usageGrid.all (fun (ut, rss, tl, ml) => match genCheckUsage ut rss tl ml with
      | .ok (a, b, c) => let m := checkUsage ut rss tl ml
        a == Int.ofNat m.1 && b == Int.ofNat m.2.1 && c == Int.ofNat (verdictNum m.2.2)
      | .error _ => false) = true := by decide +kernel

/-- `NewBuffer(max)` asks the collector for `max+1` bytes, and the collector goroutine is
"copy at most cap, signal done, drain to EOF, close" in that order. -/
theorem C08_tie_buffer :
    [0, 1, 4096, 1000000].all (fun mx => match genBufferCap mx with | .ok k => k == Int.ofNat (mx + 1) | .error _ => false) = true ∧
    Gen.C08.newPipeGoroutine = ["io.CopyN(writer,r,int64(n))", "close(done)", "io.Copy(io.Discard,r)", "r.Close()"] := by
  decide +kernel

/-- **limit signals**: at a ptrace signal-delivery stop SIGXCPU is Time Limit Exceeded and SIGXFSZ
is Output Limit Exceeded (the terminated cases are in C09); on the regenerated classifier. -/
theorem C08_signal_verdict :
    (match runPtrace 4242 4242 (WaitStatus.ofStop Gen.Consts.unix_SIGXCPU 0) true true {} with
      | .ok r => r.status == Int.ofNat Gen.Consts.runner_StatusTimeLimitExceeded | _ => false) = true ∧
    (match runPtrace 4242 4242 (WaitStatus.ofStop Gen.Consts.unix_SIGXFSZ 0) true true {} with
      | .ok r => r.status == Int.ofNat Gen.Consts.runner_StatusOutputLimitExceeded | _ => false) = true := by
  decide +kernel

/-! non-vacuity -/
example : sampleRecords.length = 96 ∧ usageGrid.length = 27 := by decide +kernel
example : prepare ⟨3, 2, 0, 5, 0, 0, 0, true⟩ = [(0, 3, 3), (1, 5, 5), (4, 0, 0)] := by decide

end GoSandbox.Props.C08
