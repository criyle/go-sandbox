/-
C14 — Host file operations are index-aligned and safe against planted objects.
PROPERTY THEOREMS ONLY.
-/
import GoSandbox.Model.Batch
namespace GoSandbox.Props.C14
open GoSandbox.Model.Batch

/-- does item c succeed? -/
def itemOk (c : OpenCmd) : Bool := !(c.mkdirAll && c.mkdirFails) && checkTarget c.kind && !c.openFails

/-- One item of the container side: a success takes the next descriptor, a failure leaves a
non-empty message and takes none. -/
private theorem containerOpen_cons (c : OpenCmd) (rest : List OpenCmd) (n : Nat) :
    (itemOk c = true ∧ containerOpen (c :: rest) n =
      ("" :: (containerOpen rest (n + 1)).1, (n, c.path) :: (containerOpen rest (n + 1)).2)) ∨
    (itemOk c = false ∧ ∃ e, e ≠ "" ∧ containerOpen (c :: rest) n =
      (e :: (containerOpen rest n).1, (containerOpen rest n).2)) := by
  simp only [containerOpen, itemOk]
  cases c.mkdirAll && c.mkdirFails <;> cases checkTarget c.kind <;> cases c.openFails <;> simp

/-- **index alignment**: for any batch and any mixture of successes and failures, pairing the
container's reply with the request on the host gives one result per item, in order; item k is a
file exactly when item k succeeded, and that file is the one opened for item k's path. -/
theorem C14_aligned : ∀ (cmds : List OpenCmd) (n : Nat),
    ∃ rs, assign (containerOpen cmds n).1 (containerOpen cmds n).2 (cmds.map (·.path)) = some rs ∧
      rs.length = cmds.length ∧
      ∀ k (h : k < cmds.length) (h' : k < rs.length),
        (itemOk cmds[k] = true → ∃ fd, rs[k] = .file fd cmds[k].path) ∧
        (itemOk cmds[k] = false → ∃ m, rs[k] = .err m ∧ m ≠ "") := by
  intro cmds
  induction cmds with
  | nil => intro n; exact ⟨[], rfl, rfl, fun k h => absurd h (by simp)⟩
  | cons c rest ih =>
    intro n
    rcases containerOpen_cons c rest n with ⟨hok, hdef⟩ | ⟨hok, e, he, hdef⟩
    · obtain ⟨rs, h1, h2, h3⟩ := ih (n + 1)
      refine ⟨.file n c.path :: rs, by rw [hdef]; simp [assign, h1], by simp [h2], fun k hk hk' => ?_⟩
      cases k with
      | zero => exact ⟨fun _ => ⟨n, rfl⟩, by simp [hok]⟩
      | succ j => exact h3 j (by simpa using hk) (by simpa using hk')
    · obtain ⟨rs, h1, h2, h3⟩ := ih n
      refine ⟨.err e :: rs, by rw [hdef]; simp [assign, he, h1], by simp [h2], fun k hk hk' => ?_⟩
      cases k with
      | zero => exact ⟨by simp [hok], fun _ => ⟨e, rfl, he⟩⟩
      | succ j => exact h3 j (by simpa using hk) (by simpa using hk')

/-- **only a regular file or a new one**: a descriptor is produced for an item only if `lstat`
found nothing there or a regular file — never through a final-component symlink planted by a
program, never a FIFO, socket, device or directory (so the open cannot block). -/
theorem C14_only_regular_or_new : ∀ (cmds : List OpenCmd) (n : Nat) (fd : Nat) (p : String),
    (fd, p) ∈ (containerOpen cmds n).2 → ∃ c ∈ cmds, c.path = p ∧ (c.kind = .absent ∨ c.kind = .regular) := by
  intro cmds
  induction cmds with
  | nil => intro n fd p h; cases h
  | cons c rest ih =>
    intro n fd p h
    rcases containerOpen_cons c rest n with ⟨hok, hdef⟩ | ⟨_, e, _, hdef⟩ <;> rw [hdef] at h
    · rcases List.mem_cons.mp h with h | h
      · cases h
        simp only [itemOk, checkTarget, Bool.and_eq_true, Bool.or_eq_true, beq_iff_eq] at hok
        exact ⟨c, List.mem_cons_self, rfl, hok.1.2⟩
      · exact (ih _ fd p h).imp fun _ h => ⟨List.mem_cons_of_mem _ h.1, h.2⟩
    · exact (ih _ fd p h).imp fun _ h => ⟨List.mem_cons_of_mem _ h.1, h.2⟩

/-- **an inconsistent reply closes everything**: for *any* reply (not only honest ones) — a
length mismatch or fewer descriptors than successes — the host returns an error and every
descriptor that arrived with the reply is closed. -/
theorem C14_inconsistent_reply_closes_all (paths errs : List String) (fds : List (Nat × String))
    (h : (hostOpen paths errs fds).1 = none) : (hostOpen paths errs fds).2 = fds.map (·.1) := by
  unfold hostOpen at *
  split
  · rfl
  · cases hA : assign errs fds paths <;> simp_all

theorem containerOpen_length (cmds : List OpenCmd) : ∀ n, (containerOpen cmds n).1.length = cmds.length := by
  induction cmds with
  | nil => intro n; rfl
  | cons c rest ih =>
    intro n
    rcases containerOpen_cons c rest n with ⟨_, h⟩ | ⟨_, e, _, h⟩ <;> simp [h, ih]

/-- and an honest reply is never rejected. -/
theorem C14_honest_reply_accepted (cmds : List OpenCmd) (n : Nat) :
    (hostOpen (cmds.map (·.path)) (containerOpen cmds n).1 (containerOpen cmds n).2).1.isSome = true := by
  obtain ⟨rs, h1, _, _⟩ := C14_aligned cmds n
  simp [hostOpen, containerOpen_length, h1]

/-! ### tie to the regenerated container side (kernel-evaluated on batches with every kind) -/

def sampleBatches : List (List OpenCmd) := [
  [],
  [⟨"/a", .regular, false, false, false⟩],
  [⟨"/a", .symlink, false, false, false⟩, ⟨"/b", .absent, false, false, false⟩],
  [⟨"/a", .regular, false, false, false⟩, ⟨"/b", .symlink, false, false, false⟩, ⟨"/c", .absent, true, false, false⟩, ⟨"/d", .fifo, false, false, false⟩,
   ⟨"/e", .regular, false, false, true⟩, ⟨"/f", .absent, true, true, false⟩, ⟨"/g", .dir, false, false, false⟩, ⟨"/h", .socket, false, false, false⟩,
   ⟨"/i", .device, false, false, false⟩, ⟨"/j", .lstatFails, false, false, false⟩, ⟨"/k", .regular, true, false, false⟩]]

theorem C14_tie_handleOpen :
    sampleBatches.all (fun b => match genContainerOpen b with
      | .ok (errs, fds, opened) =>
        let m := containerOpen b 10
        errs.map (· == "") == m.1.map (· == "") && fds == m.2.map (·.1) && opened == m.2
      | .error _ => false) = true := by decide +kernel

example : (containerOpen [⟨"/a", .symlink, false, false, false⟩, ⟨"/b", .absent, false, false, false⟩] 3) = (["not-regular", ""], [(3, "/b")]) := by decide +kernel

end GoSandbox.Props.C14
