/-
C04 — The program starts in exactly the requested security state, for every option set.
Theorems are about `Model.ForkSkeleton.skeleton` (all option sets, symbolic), which is tied to the
regenerated `forkAndExecInChild` by `C04_tie_sample` (kernel-evaluated) and, on every run, by the
exhaustive comparison in the driver and the real launches of the harness.  PROPERTY THEOREMS ONLY.
-/
import GoSandbox.Lemmas.ForkSkeleton
namespace GoSandbox.Props.C04
open GoSandbox.Model.ForkOpts GoSandbox.Model.ForkSkeleton GoSandbox.Lemmas.ForkSkeleton

@[simp] theorem mem_opt (a : Step) (b : Bool) (l : List Step) : a ∈ opt b l ↔ (b = true ∧ a ∈ l) := by
  cases b <;> simp [opt]

/-- `idx l x` : position of the first `x` in `l` (length if absent) — for ordering claims -/
def idx (l : List Step) (x : Step) : Nat := l.findIdx (· == x)

/-- **seccomp iff given**: a filter is loaded iff one was given. -/
theorem C04_seccomp_iff (o : Opts) : Step.seccomp ∈ skeleton o ↔ o.seccomp = true := by
  simp [mem_skeleton, mult]

@[simp] theorem count_opt (a : Step) (b : Bool) (l : List Step) : (opt b l).count a = if b then l.count a else 0 :=
  Lemmas.ForkSkeleton.count_opt a b l

/-- the filter is loaded **at most once**. -/
theorem C04_seccomp_once (o : Opts) : (skeleton o).count Step.seccomp ≤ 1 := by
  rw [count_skeleton]
  exact Bool.toNat_le _

/-- **no_new_privs** is set whenever requested or whenever a filter is given, and before the filter is loaded. -/
theorem C04_nnp (o : Opts) (h : o.nnp = true ∨ o.seccomp = true) : Step.prctl_nnp ∈ skeleton o := by
  rcases h with h | h <;> simp [mem_skeleton, mult, h]

/-- **capabilities are dropped** (with NOROOT locked, so exec does not give them back) whenever
credentials or capability dropping were requested — for every combination of the other options. -/
theorem C04_caps_dropped (o : Opts) (h : o.cred = true ∨ o.dropCaps = true) :
    Step.capset ∈ skeleton o ∧ Step.prctl_securebits_noroot ∈ skeleton o := by
  rcases h with h | h <;> simp [mem_skeleton, mult, h]

/-- and they are not dropped when nothing asked for it (exactness). -/
theorem C04_caps_kept_otherwise (o : Opts) (h1 : o.cred = false) (h2 : o.dropCaps = false) : Step.capset ∉ skeleton o := by
  simp [mem_skeleton, mult, h1, h2]

/-- **identity**: with a credential, gid then uid are set (and supplementary groups unless told not to). -/
theorem C04_ids (o : Opts) :
    (Step.setuid ∈ skeleton o ↔ o.cred = true) ∧ (Step.setgid ∈ skeleton o ↔ o.cred = true) ∧
    (Step.setgroups ∈ skeleton o ↔ (o.cred = true ∧ o.noSetGroups = false ∧ ¬ (o.gidMappings = true ∧ o.enableSetgroups = false ∧ o.groups = 0))) := by
  simp only [mem_skeleton, mult]
  cases o.gidMappings <;> cases o.enableSetgroups <;> simp [and_comm]

/-- **own session**, always. -/
theorem C04_setsid (o : Opts) : Step.setsid ∈ skeleton o := by
  simp [mem_skeleton, mult]

/-- **working directory, host and domain name** are set iff requested. -/
theorem C04_cwd_host_domain (o : Opts) :
    (Step.chdir_workdir ∈ skeleton o ↔ o.workdir = true) ∧ (Step.sethostname ∈ skeleton o ↔ o.hostname = true) ∧
    (Step.setdomainname ∈ skeleton o ↔ o.domainname = true) := by
  simp [mem_skeleton, mult]

/-- **pivot root** sequence runs iff a new root was requested, and ends with the read-only remount. -/
theorem C04_pivot (o : Opts) :
    (Step.pivot_root ∈ skeleton o ↔ o.pivot = true) ∧ (Step.mount_ro_root ∈ skeleton o ↔ o.pivot = true) ∧
    (Step.umount2 ∈ skeleton o ↔ o.pivot = true) := by
  simp [mem_skeleton, mult]

/-- **the last step is the exec**, and exactly one exec happens. -/
theorem C04_exec_last (o : Opts) : (skeleton o).getLast? = some (if o.execFile > 0 then Step.execveat else Step.execve) := by
  unfold skeleton
  rw [List.getLast?_append, List.getLast?_append]
  -- only the last two segments matter
  generalize List.getLast? (_ ++ _) = r
  by_cases h : o.execFile > 0 <;> simp [h, opt]

/-- vfork sharing (CLONE_VM) is used only when the child needs no interaction with the parent:
no sync callback, no stop for a tracer, no id-map hand-shake. -/
theorem C04_vfork_safe (o : Opts) (h : usesVfork o = true) :
    Step.write_sync ∉ skeleton o ∧ Step.read_idmap ∉ skeleton o ∧ Step.kill_stop ∉ skeleton o := by
  simp only [usesVfork, Bool.and_eq_true, Bool.not_eq_eq_eq_not, Bool.not_true] at h
  simp [mem_skeleton, mult, h]

/-! ### tie to the regenerated function: kernel-evaluated on a covering sample -/

def sample : List Opts := [
  {},
  { seccomp := true, nnp := true, dropCaps := true, syncFunc := true, newNs := true, pivot := true, nMounts := 2, roBindMount := true, nRlimits := 2, workdir := true },
  { cred := true, ucas := true, ptrace := true, seccomp := true, syncFunc := true, hostname := true, domainname := true, newUser := true },
  { cred := true, ucas := true, seccomp := true, ctty := true, groups := 2, cgroupFd := true, execFile := 7 },
  { ptrace := true, stopBefore := true, dropCaps := true },
  { cred := true, noSetGroups := true, dropCaps := true, newPid := true, newUts := true, newIpc := true, newNet := true, newCgroup := true },
  { cred := true, gidMappings := true, seccomp := true, ptrace := true, ucas := false, syncFunc := false },
  { dropCaps := true, ucas := true, syncFunc := true, seccomp := false, ptrace := true, nMounts := 1 }]

/-- the regenerated function's labelled trace equals the skeleton on the sample (a kernel-checked
test of the tie; the exhaustive comparison runs in the driver on every check). -/
theorem C04_tie_sample :
    sample.all (fun o => match genLabels o with | .ok l => l == skeleton o | .error _ => false) = true := by
  decide +kernel

/-! non-vacuity -/
example : Step.capset ∈ skeleton { cred := true, ucas := true, ptrace := true, seccomp := true } := by decide
example : usesVfork {} = true ∧ usesVfork { syncFunc := true } = false := by decide

end GoSandbox.Props.C04
