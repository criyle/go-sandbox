/-
C19 — The control socket delivers messages, descriptors and credentials intact or not at all.
Theorems about Model/Socket.lean (all histories, all buffer sizes), tied to pkg/unixsocket and to
the gob-framed layer (Model/Gob.lean: encoder, datagram queue, decoder; all histories) by the
regenerated (*socket).SendMsg/RecvMsg and the differential on real socketpairs.  PROPERTY THEOREMS ONLY.
-/
import GoSandbox.Model.Socket
import GoSandbox.Model.SocketGen
import GoSandbox.Model.Gob
import GoSandbox.Model.GobGen
import GoSandbox.Lemmas.Socket
import GoSandbox.Lemmas.SocketGen
import GoSandbox.Lemmas.Gob
namespace GoSandbox.Props.C19
open GoSandbox.Model.Socket GoSandbox.Lemmas.Socket

/-- **whole or not at all**: a receive either hands over exactly what one send queued — the same
bytes, the same files in the same order, the same credentials — or reports truncation and
delivers nothing as data. -/
theorem C19_whole_or_rejected (s : RState) (d f : Nat) (b : Bool) :
    match (recvMsg b s d f).1, s.queue with
    | .msg data files cred, p :: _ => data = p.data ∧ files = p.files ∧ cred = p.cred
    | .truncated, p :: _ => p.data.length > d ∨ p.files.length > f
    | .empty, q => q = []
    | _, [] => False := by
  cases hq : s.queue with
  | nil => rw [recvMsg_nil b d f hq]
  | cons p r =>
    by_cases h : p.data.length > d ∨ p.files.length > f
    · rw [recvMsg_trunc b hq h]; exact h
    · rw [recvMsg_fits b hq (by omega) (by omega)]; exact ⟨rfl, rfl, rfl⟩

/-- **no descriptor leak** (repaired code): over every history of sends and receives with any
buffer sizes, no descriptor installed by the kernel stays open unaccounted: the ledger of
"installed but neither handed over nor closed" stays empty. -/
theorem C19_no_fd_leak (ops : List Op) : ∀ (s : RState), s.leaked = [] → (run true ops s).2.2.leaked = [] :=
  fun s h => by rw [run_true_leaked, h]

/-- the pinned tree leaked: a message whose payload does not fit, carrying two descriptors. -/
theorem C19_trunc_witness :
    (run false [.send ⟨[1, 2, 3], [70, 71], none⟩, .recv 2 8] ⟨[], []⟩).2.2.leaked = [70, 71] ∧
    (run true [.send ⟨[1, 2, 3], [70, 71], none⟩, .recv 2 8] ⟨[], []⟩).2.2.leaked = [] := by
  constructor <;> decide

/-- **FIFO, in order**: when every receive buffer is large enough, the successful receives are
exactly the successful sends, in order. -/
theorem C19_fifo (ops : List Op) (hbig : ∀ op ∈ ops, match op with
      | .recv d f => ∀ op' ∈ ops, (match op' with | .send p => p.data.length ≤ d ∧ p.files.length ≤ f | _ => True)
      | _ => True) :
    ∀ (s : RState) (hq : ∀ p ∈ s.queue, ∀ op ∈ ops, match op with | .recv d f => p.data.length ≤ d ∧ p.files.length ≤ f | _ => True),
      ((run true ops s).2.1.filterMap (fun o => match o with | .msg d f c => some (⟨d, f, c⟩ : Packet) | _ => none)) <+:
        (s.queue ++ (run true ops s).1) := fun s hq => by
  have h := run_fifo true ops s fun _ _ hr p hp => hp.elim (hq p · _ hr) (hbig _ hr _)
  have e : ROut.packet? = fun o => match o with | .msg d f c => some ⟨d, f, c⟩ | _ => none :=
    funext fun o => by cases o <;> rfl
  exact ⟨_, e ▸ h⟩

/-- more than SCM_MAX_FD descriptors are refused on the sending side; nothing is queued. -/
theorem C19_too_many_fds_rejected (q : List Packet) (p : Packet) (h : p.files.length > scmMaxFd) : send q p = none := by
  simp [send, h]

/-! non-vacuity -/
example : (run true [.send ⟨[1, 2], [5], some (1, 0, 0)⟩, .send ⟨[3], [], none⟩, .recv 4 4, .recv 4 4] ⟨[], []⟩).2.1 =
    [.msg [1, 2] [5] (some (1, 0, 0)), .msg [3] [] none] := by decide

/-! ### the regenerated RecvMsg computes the hand model (evaluated by the kernel) -/

open GoSandbox.Lemmas.SocketGen in
/-- the kernel's answers in the sweep below: 1..3 bytes, 0..3 descriptors, each truncated or not, with and
without credentials -/
private theorem agreesOn_table :
    ∀ n ∈ [1, 2, 3], ∀ k ∈ [0, 1, 2, 3], ∀ tr ctr pc : Bool,
      agreesOn ⟨List.replicate n 7, (List.range k).map (· + 10), none, tr || ctr⟩ tr ctr pc = true := by
  decide +kernel

open GoSandbox.Model.SocketGen GoSandbox.Lemmas.SocketGen in
/-- **tie of RecvMsg/parseMsg**: for payloads of 1..3 bytes, 0..3 passed files, data buffers of 1..3
bytes, control buffers with room for 0..3 descriptors, with and without SO_PASSCRED (the kernel then
puts the credentials message BEFORE the rights message): the regenerated code hands over exactly
the model's message, or rejects it having closed exactly the descriptors the kernel installed. -/
theorem C19_tie_recv :
    ([1, 2, 3].all fun dl => [0, 1, 2, 3].all fun nf => [1, 2, 3].all fun dcap => [0, 1, 2, 3].all fun fcap => [false, true].all fun pc =>
      agrees ⟨List.replicate dl 7, (List.range nf).map (· + 10), none⟩ dcap fcap pc) = true := by
  -- several packets and buffers give the same answer of the kernel: the code is run once on each answer
  simp only [List.all_eq_true]
  intro dl hdl nf hnf dcap hdcap fcap hfcap pc _
  simp only [agrees_eq, krecv, List.take_replicate, List.length_replicate, List.length_map, List.length_range,
    ← List.map_take, List.take_range]
  exact agreesOn_table _ (by simp at hdl hdcap ⊢; omega) _ (by simp at hnf hfcap ⊢; omega) ..

/-! ### the gob-framed layer (container/socket_linux.go) -/
section Gob
open GoSandbox.Model.Gob GoSandbox.Lemmas.Gob

/-- **gob layer: whole and in order, first use of each type included** — for every configuration of
message types (any sharing of nested type descriptors between them, any descriptor sizes, any cap) and
every history of sends and receives in which a send that is rejected for its size was not the first
use of a type on this encoder (`firstUsesFit`; what package container guarantees: its first command
and first reply are small): no receive ever fails to decode, and the values received so far followed
by the values still in flight are exactly the values of the accepted sends, in order. -/
theorem C19_gob_whole_in_order (c : Cfg) (ops : List Model.Gob.Op) (hfit : firstUsesFit c init ops = true) :
    (∀ o ∈ (run c init ops).2, o ≠ Out.decodeError) ∧
    gots (run c init ops).2 ++ pending (run c init ops).1.q = accepted c init ops := by
  exact (run_inv c ops init (init_inv c) hfit).2

/-- **a message that does not fit is rejected on the sending side and nothing of it is delivered**:
a rejected send leaves the datagram queue and the receiver's decoder exactly as they were. -/
theorem C19_gob_rejected_sends_nothing (c : Cfg) (s : St) (k : Kind) (p : List Nat)
    (h : (step c s (.send k p)).2 = .rejected) :
    (step c s (.send k p)).1.q = s.q ∧ (step c s (.send k p)).1.known = s.known := by
  by_cases hsz : frameSize c (encode c s.sent k p).2 ≤ c.cap
  · rw [step_send_fits hsz] at h; nomatch h
  · rw [step_send_oversize (Nat.lt_of_not_le hsz)]; exact ⟨rfl, rfl⟩

/-- an accepted send never exceeds the cap, so the receiver's 32 KiB buffer always holds it whole
(the raw layer's truncation case cannot arise for gob-framed messages) -/
theorem C19_gob_accepted_fits (c : Cfg) (s : St) (k : Kind) (p : List Nat)
    (h : (step c s (.send k p)).2 = .sent) :
    ∃ f, (step c s (.send k p)).1.q = s.q ++ [f] ∧ frameSize c f ≤ c.cap ∧ valOf f = some (k, p) := by
  by_cases hsz : frameSize c (encode c s.sent k p).2 ≤ c.cap
  · rw [step_send_fits hsz]; exact ⟨_, rfl, hsz, valOf_encode ..⟩
  · rw [step_send_oversize (Nat.lt_of_not_le hsz)] at h; nomatch h

def tinyGob : Cfg := { descs := fun k => if k == 0 then [10, 11] else [11, 12], descSize := fun _ => 4, cap := 16 }

/-- **the open known finding `gob-unsent-oversize-first-use`, in the model**: the hypothesis of
`C19_gob_whole_in_order` is necessary.  An oversize message that is the first use of its type is
rejected, but the encoder has marked the type's descriptors as emitted: the next (small) message of
that type reaches a decoder that has never seen them and cannot be decoded — and, descriptor 11 being
shared, neither can a message of the other type. After a small first use the same oversize message is
harmless. -/
theorem C19_gob_oversize_first_use_witness :
    (run tinyGob init [.send 0 (List.replicate 20 1), .send 0 [1], .recv]).2 = [.rejected, .sent, .decodeError] ∧
    (run tinyGob init [.send 0 (List.replicate 20 1), .send 1 [1], .recv]).2 = [.rejected, .sent, .decodeError] ∧
    (run tinyGob init [.send 0 [2], .send 0 (List.replicate 20 1), .send 0 [1], .send 1 [3], .recv, .recv, .recv]).2
      = [.sent, .rejected, .sent, .sent, .got 0 [2], .got 0 [1], .got 1 [3]] ∧
    firstUsesFit tinyGob init [.send 0 (List.replicate 20 1), .send 0 [1], .recv] = false ∧
    firstUsesFit tinyGob init [.send 0 [2], .send 0 (List.replicate 20 1), .send 0 [1], .send 1 [3], .recv, .recv, .recv] = true := by
  refine ⟨?_, ?_, ?_, ?_, ?_⟩ <;> decide

open GoSandbox.Model.GobGen in
/-- **tie of the gob layer to the code**: the regenerated `(*socket).SendMsg` (reset the buffer, encode,
compare with bufferSize, hand the buffer to the raw socket) and `(*socket).RecvMsg` (receive a datagram,
point the decoder at exactly those bytes, decode) run over the model's encoder, queue and decoder give
the model's outcome and leave the model's state after every operation, on every history of length ≤ 4
over {small / oversize message of either of two types with a shared nested descriptor, receive} —
including the oversize first use, a receive on an empty queue, and sends after rejected sends (a buffer
that is not reset would accumulate). -/
theorem C19_tie_gob :
    ((histories [.send 0 [1], .send 0 (List.replicate 20 1), .send 1 [2, 3], .send 1 (List.replicate 9 5), .recv] 4).all
      (agrees tinyGob)) = true := by
  decide +kernel

/-! non-vacuity -/
example : (GoSandbox.Model.GobGen.histories [Model.Gob.Op.send 0 [1], .send 0 (List.replicate 20 1), .send 1 [2, 3], .send 1 (List.replicate 9 5), .recv] 4).length = 625 := by decide +kernel
example : firstUsesFit tinyGob init [.send 0 [1], .send 1 [2], .send 0 (List.replicate 20 1), .recv, .recv] = true := by decide

end Gob

end GoSandbox.Props.C19
