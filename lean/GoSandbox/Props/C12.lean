/-
C12 — No residue: no processes, zombies, descriptors or goroutines left behind.
The process part is a theorem about the reaping handshake of the container init over an abstract
process forest (Kernel/Proc.lean), for every forest; ownership of descriptors is tied to the code
by extracted facts; the runtime counts (descriptors, children, goroutines of the host and of the
init) are explored by the harness over histories (partial).  PROPERTY THEOREMS ONLY.
-/
import GoSandbox.Kernel.Proc
import GoSandbox.Gen.C12
import GoSandbox.Lemmas.Proc
namespace GoSandbox.Props.C12
open GoSandbox.Kernel.Proc

theorem reap1_length (f f' : Forest) (h : reap1 f = some f') : f'.length + 1 = f.length :=
  (Lemmas.Proc.reap1_some h).2

theorem reap1_none_of_all_dead_init (f : Forest) (hd : ∀ p ∈ f, p.alive = false ∧ p.parent = 1) (h : reap1 f = none) : f = [] := by
  cases f with
  | nil => rfl
  | cons p rest =>
    have := hd p List.mem_cons_self
    simp [reap1, this.1, this.2] at h

theorem reparent_killed (f : Forest) (hd : ∀ p ∈ f, p.alive = false) (hp : ∀ p ∈ f, p.parent = 1 ∨ isDead f p.parent = true) :
    ∀ p ∈ reparent f, p.alive = false ∧ p.parent = 1 := by
  intro p hpm
  simp only [reparent, List.mem_map] at hpm
  obtain ⟨q, hq, rfl⟩ := hpm
  rcases hp q hq with h | h
  · split <;> simp [hd q hq, h]
  · simp [h, hd q hq]

private theorem reparent_orphans {f : Forest} (hd : ∀ p ∈ f, p.alive = false ∧ p.parent = 1) :
    ∀ p ∈ reparent f, p.alive = false ∧ p.parent = 1 :=
  reparent_killed f (fun p hp => (hd p hp).1) fun p hp => .inl (hd p hp).2

/-- the hypothesis speaks of `reparent f`, which is what the loop looks at: in `killAll f` the processes still
have the parents the program gave them -/
private theorem waitAll_eq_nil {fuel : Nat} {f : Forest} (hl : f.length ≤ fuel)
    (hd : ∀ p ∈ reparent f, p.alive = false ∧ p.parent = 1) : waitAll fuel f = [] := by
  induction fuel generalizing f with
  | zero => exact List.length_eq_zero_iff.mp (Nat.le_zero.mp hl)
  | succ fuel ih =>
    simp only [waitAll]
    cases hr : reap1 (reparent f) with
    | none => exact reap1_none_of_all_dead_init _ hd hr
    | some f' =>
      -- `f'` is `reparent f` without one process: still dead children of init, and shorter than `f`
      obtain ⟨hsub, hlen⟩ := Lemmas.Proc.reap1_some hr
      have hl' : (reparent f).length = f.length := List.length_map _
      exact ih (by omega) (reparent_orphans fun p hp => hd p (hsub.subset hp))

/-- all dead, all children of init ⇒ the wait loop empties the forest -/
theorem waitAll_empties : ∀ (fuel : Nat) (f : Forest), f.length ≤ fuel → (∀ p ∈ f, p.alive = false ∧ p.parent = 1) →
    waitAll fuel f = [] :=
  fun _ _ hl hd => waitAll_eq_nil hl (reparent_orphans hd)

/-- **C12_container_no_children**: whatever process tree the program built (any depth, fan-out,
double forks, orphans, processes that ignore signals or outlive their parent) — as long as every
process' parent is init or another process of the namespace — after init's `kill(-1, SIGKILL)` and
the wait-until-ECHILD loop, init has no child left, live or zombie. -/
theorem C12_container_no_children (f : Forest)
    (hp : ∀ p ∈ f, p.parent = 1 ∨ f.any (fun q => q.pid == p.parent) = true) :
    waitAll (f.length + 1) (killAll f) = [] := by
  refine waitAll_eq_nil (by rw [killAll, List.length_map]; exact Nat.le_succ _) (reparent_killed _ ?_ ?_)
  · intro p h
    obtain ⟨q, _, rfl⟩ := List.mem_map.mp h
    rfl
  · intro p h
    obtain ⟨q, hq, rfl⟩ := List.mem_map.mp h
    refine (hp q hq).imp_right fun h1 => ?_
    -- the parent is a process of `f`, hence dead in `killAll f`
    obtain ⟨r, hr, hrr⟩ := List.any_eq_true.mp h1
    exact List.any_eq_true.mpr ⟨_, List.mem_map_of_mem hr, by simpa using hrr⟩

/-- **the handshake is what the code does**: on every path of handleExecve/handleExecveStarted
that started a program, `kill(-1, SIGKILL)` is issued and the wait-all request is sent to the
reaper before the function returns; descriptors received with the request are closed when the
handler returns; files opened for the host are closed by the send loop after sending. -/
theorem C12_code_facts :
    Gen.C12.execStartedPaths.all (fun path => path.contains "syscall.Kill(-1,syscall.SIGKILL)" && path.contains "c.waitAll<-") = true ∧
    Gen.C12.handleExecveDefers.contains "closeFds(msg.Fds)" = true ∧
    Gen.C12.sendLoopClosesFiles = true := by
  decide +kernel

/-- **a Build that fails destroys the container it had started** (regenerated from container/environment_linux.go):
on every path through `Builder.Build` that does not return the environment — other than the failure of
`startContainer` itself, where nothing was started — `c.Destroy()` is the last thing done before the return
(ping not answered, temporary root cannot be made, working directory unknown, configuration refused).
(False before the `fix:` commit 1f2e1e4 for the two root-directory paths.) -/
theorem C12_gen_build_cleans_up :
    Gen.C12.buildPaths.all (fun p =>
      p.contains "return c" ||
      p == ["b.startContainer()", "return nil", "return err"] ||
      ((p.dropWhile (· != "c.Destroy()")).length == 3 && p.head? == some "b.startContainer()")) = true ∧
    Gen.C12.buildPaths.any (fun p => p.contains "return c") = true ∧
    (Gen.C12.buildPaths.filter (fun p => p.contains "c.Destroy()")).length ≥ 4 := by
  decide +kernel

/-! non-vacuity: a double-fork orphan tree -/
example : waitAll 5 (killAll [⟨2, 1, true⟩, ⟨3, 2, true⟩, ⟨4, 3, false⟩, ⟨5, 3, true⟩]) = [] := by decide

end GoSandbox.Props.C12
