/-
C18 — Path-set policy admits only covered paths; counters never exceed their budget.
PROPERTY THEOREMS ONLY (helper lemmas live in Lemmas/FileSet.lean).
-/
import GoSandbox.Model.FileSet
import GoSandbox.Model.FileSetGen
import GoSandbox.Spec.Covers
import GoSandbox.Lemmas.FileSet
namespace GoSandbox.Props.C18
open GoSandbox.Model.FileSet GoSandbox.Spec GoSandbox.Lemmas.FileSet

/-- **Soundness of the set lookup**, for every set and every query string:
`IsInSetSmart` answers `true` only if some entry covers the path (or the path is `/` and the
system-root flag is set).  Hypothesis `AbsOrEmpty` is what the ptrace handler guarantees for
every string it passes (absolute, or "" for an unresolvable name); without it `{"/*"}` admits the
relative name `abc` (see `C18_relative_witness`). -/
theorem C18_sound (s : FileSet) (p : Str) (hp : AbsOrEmpty p)
    (h : inSetSmart s p = true) : admittedBy s p := by
  rcases (inSetSmart_iff s p).mp h with h | h | h
  · exact Or.inl ⟨p, h, Or.inl rfl⟩
  · exact Or.inr h
  · have hl := loop_sound (S := s.set) p.length 0 p (Nat.le_refl _) hp (Or.inl ⟨rfl, rfl⟩)
    left
    cases hloop : loop s.set p.length 0 p <;> rw [hloop] at hl h
    · exact hl
    · -- after the loop the name is "": the root entries "/*" and "/" are the loop's two tests once more
      rcases h with ⟨rfl, hm⟩ | hm
      · exact ⟨_, hm, hl.covers_children⟩
      · exact ⟨_, hm, hl.covers_dir⟩

/-- The excluded region is real: for a *relative* name the level counter treats `abc` as a child
of the root.  Reachable only by calling the exported method directly (the handler passes
absolute-or-empty strings), reported as an observation. -/
theorem C18_relative_witness :
    inSetSmart ⟨[['/', '*']], false⟩ ['a', 'b', 'c'] = true ∧
    ¬ admittedBy ⟨[['/', '*']], false⟩ ['a', 'b', 'c'] := by
  refine ⟨by decide +kernel, ?_⟩
  intro h
  rcases h with ⟨e, he, hc⟩ | ⟨h, _⟩
  · simp at he; subst he
    rcases hc with h | ⟨d, h, _⟩ | ⟨d, c, h1, h2, _⟩
    · simp at h
    · have := congrArg List.getLast? h; simp at this
    · simp at h1; subst h1; simp at h2
  · simp at h

/-- Access-class cascade: an `allow` for a class is only given through that class' chain of sets
(write: W; read: W,R; stat: W,R,S), for the path or its real path. -/
theorem C18_cascade (fs : FileSets) (rp : Str → Str) (c : Cls) (p : Str)
    (hp : AbsOrEmpty p) (hrp : AbsOrEmpty (rp p))
    (h : check fs rp c p = .allow) : admitted fs rp c p := by
  rw [check_eq] at h
  split at h
  · next hc =>
    obtain ⟨s, hs, hin⟩ := List.any_eq_true.mp hc
    exact ⟨s, hs, ((Bool.or_eq_true _ _).mp hin).imp (C18_sound s p hp) (C18_sound s (rp p) hrp)⟩
  · exact absurd h (onDgs_ne_allow fs rp p)

/-- writable ⇒ readable ⇒ statable. -/
theorem C18_implies (fs : FileSets) (rp : Str → Str) (p : Str) :
    (isWritable fs rp p = true → isReadable fs rp p = true) ∧
    (isReadable fs rp p = true → isStatable fs rp p = true) := by
  constructor <;> intro h
  · simp [isReadable, h]
  · simp [isStatable, h]

/-- A refusal is a soft ban exactly when the soft-ban set covers the path (in the model:
`IsSoftBanFile`), otherwise a kill. -/
theorem C18_refusal_kind (fs : FileSets) (rp : Str → Str) (c : Cls) (p : Str)
    (h : check fs rp c p ≠ .allow) :
    (isSoftBan fs rp p = true → check fs rp c p = .ban) ∧
    (isSoftBan fs rp p = false → check fs rp c p = .kill) := by
  rw [check_eq] at h ⊢
  split at h
  · exact absurd rfl h
  · next hx =>
    rw [if_neg hx, onDgs]
    exact ⟨fun hb => by rw [if_pos hb], fun hb => by rw [hb]; rfl⟩

/-- The empty path (unresolvable name) is admitted by a set only through a literal `"/"` entry
(the directory entry of the empty directory name). -/
theorem C18_empty_refused (s : FileSet) (h : inSetSmart s [] = true) :
    [] ∈ s.set ∨ ['/'] ∈ s.set := by
  rcases (inSetSmart_iff s []).mp h with h | h | h
  · exact Or.inl h
  · simp at h
  · exact Or.inr (by simpa [loop] using h)

/-! ### counters -/

theorem get_set (c : Counter) (k k' : Str) (v : Int) :
    (c.set k v).get? k' = if k = k' then some v else c.get? k' :=
  get?_set c k k' v

/-- run a history of `CheckSyscall` calls against a counter table. -/
def runHist (c : Counter) : List Str → List (Str × Action)
  | [] => []
  | n :: rest => let r := checkSyscall c n; (n, r.2) :: runHist r.1 rest

def allowedCount (name : Str) (l : List (Str × Action)) : Nat :=
  (l.filter (fun x => x.1 = name ∧ x.2 = .allow)).length

private theorem allowedCount_cons (name x : Str) (v : Action) (l : List (Str × Action)) :
    allowedCount name ((x, v) :: l) =
      allowedCount name l + if x = name ∧ v = .allow then 1 else 0 := by
  simp only [allowedCount, List.filter_cons, decide_eq_true_eq]
  split <;> rfl

/-- The exact count: a name counted down from `n` is allowed on its first `n - 1` calls and on no
other. -/
private theorem allowedCount_runHist (hist : List Str) :
    ∀ (c : Counter) (name : Str) (n : Int), c.get? name = some n →
      allowedCount name (runHist c hist) = min (hist.count name) (n - 1).toNat := by
  induction hist with
  | nil => intros; exact (Nat.zero_min _).symm
  | cons x rest ih =>
    intro c name n hn
    rw [runHist, allowedCount_cons]
    by_cases hx : x = name
    · subst hx
      rw [List.count_cons_self, checkSyscall_some hn, ih _ x (n - 1) (get?_set_self ..)]
      by_cases h1 : n ≤ 1
      · rw [if_pos h1, if_neg nofun]; omega          -- killed: no budget now or later
      · rw [if_neg h1, if_pos ⟨rfl, rfl⟩]; omega    -- allowed: one of the `n - 1` is used up
    · rw [List.count_cons_of_ne hx, if_neg (hx ·.1),
        ih _ name n ((checkSyscall_get?_of_ne c hx).trans hn)]
      rfl

/-- **Budget**: over any call history a counted name is allowed at most `configured - 1`
(hence at most `configured`) times. Stated on unbounded `Int`; the Go `int` wraps only after
2^63 calls. -/
theorem C18_counter (hist : List Str) :
    ∀ (c : Counter) (name : Str) (n : Int), c.get? name = some n →
      allowedCount name (runHist c hist) ≤ (n - 1).toNat ∧
      allowedCount name (runHist c hist) ≤ n.toNat := by
  intro c name n h
  rw [allowedCount_runHist hist c name n h]
  exact ⟨Nat.min_le_right .., Nat.le_trans (Nat.min_le_right ..) (by omega)⟩

/-- **Once refused, always refused**: when the counter of `name` is ≤ 1 (which is exactly when
a call is refused), every later call for `name` in any history is a kill. -/
theorem C18_counter_stays_refused (hist : List Str) :
    ∀ (c : Counter) (name : Str) (n : Int), c.get? name = some n → n ≤ 1 →
      ∀ x ∈ runHist c hist, x.1 = name → x.2 = .kill := by
  induction hist with
  | nil => intro c name n _ _ x hx; cases hx
  | cons y rest ih =>
    intro c name n hn hle x hx hxn
    rw [runHist, List.mem_cons] at hx
    by_cases hy : y = name
    · subst hy
      rw [checkSyscall_some hn, if_pos hle] at hx
      rcases hx with rfl | hx
      · rfl
      · exact ih _ y (n - 1) (get?_set_self ..) (by omega) x hx hxn
    · rcases hx with rfl | hx
      · exact absurd hxn hy
      · exact ih _ name n ((checkSyscall_get?_of_ne c hy).trans hn) hle x hx hxn

/-- a refusal leaves the counter ≤ 1, so `C18_counter_stays_refused` applies afterwards. -/
theorem C18_refusal_sets_low (c : Counter) (name : Str)
    (h : (checkSyscall c name).2 = .kill) :
    ∃ n, (checkSyscall c name).1.get? name = some n ∧ n ≤ 1 := by
  cases hc : c.get? name with
  | none => rw [checkSyscall_none hc] at h; cases h
  | some m =>
    rw [checkSyscall_some hc] at h ⊢
    refine ⟨m - 1, get?_set_self .., ?_⟩
    split at h
    · omega
    · cases h

/-- an uncounted traced syscall is soft-banned and the table is unchanged. -/
theorem C18_uncounted_banned (c : Counter) (name : Str) (h : c.get? name = none) :
    checkSyscall c name = (c, .ban) :=
  checkSyscall_none h

/-! ### non-vacuity: concrete states meeting the hypotheses -/
example : AbsOrEmpty "/usr/lib/x".toList ∧
    inSetSmart ⟨["/usr/".toList], false⟩ "/usr/lib/x".toList = true := by
  refine ⟨Or.inr ⟨_, rfl⟩, by decide +kernel⟩
example : inSetSmart ⟨["/w/*".toList], false⟩ "/w/a".toList = true ∧
    inSetSmart ⟨["/w/*".toList], false⟩ "/w/a/b".toList = false := by decide +kernel
example : allowedCount "fork".toList (runHist [("fork".toList, 3)]
    ["fork".toList, "fork".toList, "fork".toList, "fork".toList]) = 2 := by decide +kernel

/-! ### the regenerated code computes the hand model (evaluated by the kernel) -/

open GoSandbox.Model.FileSetGen in
def tieSets : List FileSet :=
  let keys : List (List String) := [[], ["/"], ["/*"], ["/a"], ["/a/"], ["/a/*"], ["/a/a/"], ["/*", "/a/"], ["/a/a", "/a/*"], ["//"], ["*"], ["a/"]]
  keys.flatMap (fun k => [⟨k.map String.toList, false⟩, ⟨k.map String.toList, true⟩])

open GoSandbox.Model.FileSetGen in
/-- **tie of IsInSetSmart**: on every string over {'/', 'a', '*'} of length ≤ 3, ten longer names (two and
three levels deep, doubled slashes) and 24 sets (root
entries, directory entries, children entries, nested, malformed, with and without SystemRoot) the
regenerated `IsInSetSmart`/`dirname` return what the hand model returns -/
theorem C18_tie_inset :
    tieSets.all (fun s => (words ['/', 'a', '*'] 3 ++ ["/a/a", "/a/*", "/a/a/", "/a/a/a", "//a/", "/a//", "/a/a/a/a", "/*/a", "a/a/a", "/aa/a"].map String.toList).all
      (fun n => genInSet s n == some (inSetSmart s n))) = true := by
  decide +kernel

open GoSandbox.Model.FileSetGen in
/-- **tie of the class cascade**: IsWritableFile ⊆ IsReadableFile ⊆ IsStatableFile and IsSoftBanFile of the
regenerated code equal the hand model, with `realPath` the identity and with `realPath` = "" (unresolvable) -/
theorem C18_tie_classes :
    (let fs : FileSets := ⟨⟨["/w/".toList], false⟩, ⟨["/r/*".toList], false⟩, ⟨["/s".toList], true⟩, ⟨["/b/".toList], false⟩⟩
     ["/w/x", "/r/x", "/r/x/y", "/s", "/", "/b/q", "", "/zz"].all (fun n =>
       [fun (x : Str) => x, fun _ => ([] : Str)].all (fun rp =>
         genClasses fs rp n.toList == some (isWritable fs rp n.toList, isReadable fs rp n.toList, isStatable fs rp n.toList, isSoftBan fs rp n.toList)))) = true := by
  decide +kernel

open GoSandbox.Model.FileSetGen in
/-- **tie of the handler's verdicts**: the regenerated Handler.CheckWrite/CheckRead/CheckStat with the regenerated
onDgsFileDetect give the hand model's verdict (allow through the class' chain of sets, otherwise soft ban exactly
when the soft-ban set covers the name, otherwise kill) for each class on names of every kind — covered by each set,
by the soft-ban set only, by nothing, the root, the empty (unresolvable) name — with `realPath` the identity and
`realPath` = "" -/
theorem C18_tie_handler :
    (let fs : FileSets := ⟨⟨["/w/".toList], false⟩, ⟨["/r/*".toList], false⟩, ⟨["/s".toList], true⟩, ⟨["/b/".toList, "/s".toList], false⟩⟩
     ["/w/x", "/r/x", "/r/x/y", "/s", "/", "/b/q", "", "/zz"].all (fun n =>
       [fun (x : Str) => x, fun _ => ([] : Str)].all (fun rp =>
         [Cls.write, Cls.read, Cls.stat].all (fun c =>
           genCheck fs rp c n.toList == some (check fs rp c n.toList))))) = true := by
  decide +kernel

/-- call histories over a small alphabet of names -/
def histories (names : List Str) : Nat → List (List Str)
  | 0 => [[]]
  | n + 1 => (histories names n).flatMap (fun h => [] :: names.map (fun x => x :: h))

open GoSandbox.Model.FileSetGen in
/-- run a history through the regenerated CheckSyscall and through the hand model, comparing verdict and table after every call -/
def historyAgrees : Counter → List Str → Bool
  | _, [] => true
  | c, x :: rest =>
    match genCheckSyscall c x with
    | some (c', a) => (checkSyscall c x == (c', a)) && historyAgrees c' rest
    | none => false

open GoSandbox.Model.FileSetGen in
/-- **tie of the counter**: over every call history of length ≤ 4 on the names {a, b, u} from a table that counts
`a` down from 3 and `b` from 1 (and does not know `u`), the regenerated CheckSyscall + SyscallCounter.Check return
the hand model's verdict and leave the hand model's table after every call (so the theorems `C18_counter`,
`C18_counter_stays_refused`, `C18_uncounted_banned` speak about the code's table); budgets 0, 1, 2 and a negative
one; and the regenerated Add sets exactly one entry -/
theorem C18_tie_counter :
    ((histories ["a".toList, "b".toList, "u".toList] 4).all (fun h =>
       historyAgrees [("a".toList, 3), ("b".toList, 1)] h)) = true ∧
    ([0, 1, 2, -1].all (fun (k : Int) => historyAgrees [("a".toList, k)] ["a".toList, "a".toList, "a".toList])) = true ∧
    (genCounterAdd [("a".toList, 3)] "b".toList 2 == some [("a".toList, 3), ("b".toList, 2)] &&
     genCounterAdd [("a".toList, 3), ("b".toList, 1)] "a".toList 7 == some [("a".toList, 7), ("b".toList, 1)]) = true := by
  decide +kernel

end GoSandbox.Props.C18
