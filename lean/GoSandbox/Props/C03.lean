/-
C03 — Handler verdicts are enforced: banned and killed syscalls never take effect.
Theorems about Model/Verdict.lean: the regenerated handleTrap on a stopped tracee (kernel-evaluated),
the kernel's resume rule, and runs of arbitrary programs over arbitrary process trees with arbitrary
decision functions.  PROPERTY THEOREMS ONLY (the lemmas they rest on are in Lemmas/Verdict.lean).
-/
import GoSandbox.Model.Verdict
import GoSandbox.Model.SeccompGen
import GoSandbox.Lemmas.Verdict
namespace GoSandbox.Props.C03
open GoSandbox.Model.Verdict

/-! ### one trap -/

/-- the regenerated handleTrap (+ skipSyscall, SetReturnValue, softBanSyscall) computes the hand
model on every verdict, for ordinary and extreme register contents, and does nothing when the
tracee has vanished -/
theorem C03_gen_trap_matches_model :
    ([Act.allow, .ban, .kill].all fun a =>
      [(⟨258, 5⟩ : Regs), ⟨2, 0⟩, ⟨0, 2 ^ 64 - 1⟩, ⟨437, 2 ^ 63⟩, ⟨2 ^ 32 + 59, 7⟩].all fun r =>
        (match genTrap a r with | .ok x => x == handleTrapM a r | .error _ => false) &&
        (match genTrap a r true with | .ok x => x == (r, false) | .error _ => false)) = true := by decide +kernel

/-- **ban**: after a ban the kernel skips the call and the program sees -BanRet, whatever the
registers were -/
theorem C03_ban_skips (r : Regs) :
    kernelResume (handleTrapM .ban r).1 = some (-(banRet : Int)) ∧ (handleTrapM .ban r).2 = false := by
  constructor
  · show kernelResume ({ origRax := 2 ^ 64 - 1, rax := 2 ^ 64 - banRet } : Regs) = some (-(banRet : Int))
    decide
  · rfl

/-- **allow**: the registers are untouched — the call the program made executes unmodified (for a
real syscall number) -/
theorem C03_allow_unmodified (r : Regs) (h : r.origRax < 2 ^ 31) :
    (handleTrapM .allow r) = (r, false) ∧ kernelResume r = none :=
  ⟨rfl, if_neg (by omega)⟩

/-- **kill**: an error is returned (the run ends as Disallowed Syscall) and the tracee is never
resumed by handleTrap: its registers are as they were -/
theorem C03_kill_errors (r : Regs) : handleTrapM .kill r = (r, true) := rfl

/-! ### every process of the tree is traced -/

/-- the regenerated option word asks for seccomp events, kill-on-exit and auto-attach on
fork, vfork and clone -/
theorem C03_options :
    (match genOptionBits with
     | some b => kindsOf b == [Kind.fork, .vfork, .clone] &&
        (b &&& GoSandbox.Gen.Consts.unix_PTRACE_O_TRACESECCOMP != 0) &&
        (b &&& GoSandbox.Gen.Consts.unix_PTRACE_O_EXITKILL != 0) &&
        (b &&& GoSandbox.Gen.Consts.unix_PTRACE_O_TRACEEXEC != 0)
     | none => false) = true := by decide +kernel

/-- with those options every descendant, however it was created, is attached -/
theorem C03_all_processes_traced (lineage : List Kind) : tracedProc [Kind.fork, .vfork, .clone] lineage = true :=
  List.all_eq_true.mpr fun k _ => by cases k <;> rfl

/-! ### runs -/

/-- the call may execute: the filter allows it, or it is trapped in a traced process and the handler allows it -/
def mayExec (opts : List Kind) (decide : Nat → Act) (op : Op) : Prop :=
  op.fres = .allow ∨ (op.fres = .trace ∧ tracedProc opts op.lineage = true ∧ decide op.id = .allow)

/-- the call ends the run: the filter kills, or the handler kills -/
def killsRun (opts : List Kind) (decide : Nat → Act) (op : Op) : Prop :=
  op.fres = .kill ∨ (op.fres = .trace ∧ tracedProc opts op.lineage = true ∧ decide op.id = .kill)

/-- **nothing denied ever executes**: for every program, process tree, option set and decision
function, every call that took effect was allowed by the filter or allowed by the handler in a
traced process — never one that was banned, killed, or trapped without a tracer. -/
theorem C03_effects_were_allowed (opts : List Kind) (decide : Nat → Act) (ops : List Op) :
    ∀ (s : RunSt) (id : Nat), id ∈ (runOps opts decide ops s).effects →
      id ∈ s.effects ∨ ∃ op ∈ ops, op.id = id ∧ mayExec opts decide op := by
  intro s id
  refine List.foldlRecOn ops (stepOp opts decide) (motive := fun t => id ∈ t.effects → _) Or.inl ?_
  intro t ih op hop h
  rcases Lemmas.Verdict.stepOp_effects opts decide t op with e | ⟨e, hm⟩ <;> rw [e] at h
  · exact ih h
  · rcases List.mem_append.mp h with h | h
    · exact ih h
    · exact .inr ⟨op, hop, (List.mem_singleton.mp h).symm, hm⟩

/-- **a killed syscall ends the run as Disallowed Syscall and nothing after it happens**: the call
itself does not execute, no later call of any process executes, the program sees nothing more. -/
theorem C03_kill_ends_run (opts : List Kind) (decide : Nat → Act) (pre post : List Op) (op : Op) (s : RunSt)
    (hk : killsRun opts decide op) :
    let mid := runOps opts decide pre s
    let fin := runOps opts decide (pre ++ op :: post) s
    fin.status = .disallowed ∧ fin.effects = mid.effects ∧ fin.rets = mid.rets := by
  intro mid fin
  have hfin : fin = runOps opts decide post (stepOp opts decide mid op) := Lemmas.Verdict.runOps_append pre _
  rw [hfin, Lemmas.Verdict.stepOp_end hk, Lemmas.Verdict.runOps_ended post rfl]
  exact ⟨rfl, rfl, rfl⟩

/-- **a banned syscall does not execute and the program sees the configured error** -/
theorem C03_ban_seen (opts : List Kind) (decide : Nat → Act) (s : RunSt) (op : Op)
    (hs : s.status = .normal) (hf : op.fres = .trace) (ht : tracedProc opts op.lineage = true) (hd : decide op.id = .ban) :
    (stepOp opts decide s op).effects = s.effects ∧
    (stepOp opts decide s op).rets = s.rets ++ [(op.id, -(banRet : Int))] ∧
    (stepOp opts decide s op).status = .normal := by
  rw [Lemmas.Verdict.stepOp_ban hs hf ht hd]
  exact ⟨rfl, rfl, hs⟩

/-- **an allowed syscall executes** (while the run is on) -/
theorem C03_allowed_executes (opts : List Kind) (decide : Nat → Act) (s : RunSt) (op : Op)
    (hs : s.status = .normal) (hm : mayExec opts decide op) :
    (stepOp opts decide s op).effects = s.effects ++ [op.id] ∧ (stepOp opts decide s op).rets = s.rets ∧
    (stepOp opts decide s op).status = .normal := by
  rw [Lemmas.Verdict.stepOp_exec hs hm]
  exact ⟨rfl, rfl, hs⟩

/-- non-vacuity: a program over a fork / vfork / thread tree with one ban and one kill -/
example :
    let d : Nat → Act := fun i => if i = 2 then .ban else if i = 4 then .kill else .allow
    runOps [Kind.fork, .vfork, .clone] d
      [⟨[], 0, .allow⟩, ⟨[.fork], 1, .trace⟩, ⟨[.fork, .clone], 2, .trace⟩, ⟨[.vfork], 3, .trace⟩, ⟨[.clone], 4, .trace⟩, ⟨[], 5, .allow⟩] {} =
    { effects := [0, 1, 3], rets := [(2, -13)], status := .disallowed } := by decide

/-- **a call the filter kills ends the whole program, not one thread** (regenerated `ToSeccompAction`,
kernel-evaluated): the library's kill action — named, unset (0) or unknown — is compiled to
SECCOMP_RET_KILL_PROCESS, which is not the thread-only kill: a multi-threaded program cannot lose one
thread to the filter and carry on (its exit would then be reported instead of Disallowed Syscall) -/
theorem C03_gen_filter_kill_is_process_wide :
    [Int.ofNat Gen.Consts.ActionKill, 0, 77].all (fun a =>
      match Model.SeccompGen.runAction a with
      | .ok r => r == Int.ofNat Gen.Consts.libseccomp_ActionKillProcess
      | .error _ => false) = true ∧
    Gen.Consts.libseccomp_ActionKillProcess ≠ Gen.Consts.libseccomp_ActionKillThread := by
  decide +kernel

end GoSandbox.Props.C03
