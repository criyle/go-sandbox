/-
C09 — Every way a program can end is classified per the documented status table.
The classifiers are the *regenerated* Go-lite translations of the three sites (Gen.C09, rebuilt
from /repo on every run); the theorems below evaluate them in the Lean kernel over the whole
finite domain (every exit code, every signal number ± core bit), so they are re-proved against
what the code says now.  PROPERTY THEOREMS ONLY.
-/
import GoSandbox.Model.Classify
namespace GoSandbox.Props.C09
open GoSandbox.Model.Classify GoSandbox.Kernel GoSandbox.Spec.StatusTable

def mainPid : Nat := 4242
def otherPid : Nat := 4243
/-- bounds far above any usage we feed (usage under the bounds: C08 covers the over-limit arms) -/
def big : Nat := 1000000000000

def okPtrace (ws : Nat) (o : Outcome) : Bool :=
  match runPtrace mainPid mainPid ws true true {} with
  | .ok r => statusOf r.status == some (table o).1 && r.exitStatus == Int.ofNat (table o).2
             && (r.finished || r.status != Int.ofNat Gen.Consts.runner_StatusNormal) && r.errStr == ""
  | .error _ => false

def okUnshare (ws : Nat) (o : Outcome) : Bool :=
  match runUnshare ws 5 5 big big with
  | .ok r => r.returned && statusOf r.status == some (table o).1 && r.exitStatus == Int.ofNat (table o).2
  | .error _ => false

def okContainer (ws : Nat) (o : Outcome) : Bool :=
  match runContainer ws false with
  | .ok r => r.returned && statusOf r.status == some (table o).1 && r.exitStatus == Int.ofNat (table o).2
  | .error _ => false

def exitCodes : List Nat := List.range 256
def signals : List Nat := (List.range 64).map (· + 1)

theorem ptrace_exit_tbl : exitCodes.all (fun c => okPtrace (WaitStatus.ofExit c) (.exit c)) = true := by decide +kernel
theorem ptrace_signal_tbl : signals.all (fun s => okPtrace (WaitStatus.ofSignal s false) (.killed s) &&
    okPtrace (WaitStatus.ofSignal s true) (.killed s)) = true := by decide +kernel
theorem unshare_exit_tbl : exitCodes.all (fun c => okUnshare (WaitStatus.ofExit c) (.exit c)) = true := by decide +kernel
theorem unshare_signal_tbl : signals.all (fun s => okUnshare (WaitStatus.ofSignal s false) (.killed s) &&
    okUnshare (WaitStatus.ofSignal s true) (.killed s)) = true := by decide +kernel
theorem container_exit_tbl : exitCodes.all (fun c => okContainer (WaitStatus.ofExit c) (.exit c)) = true := by decide +kernel
theorem container_signal_tbl : signals.all (fun s => okContainer (WaitStatus.ofSignal s false) (.killed s) &&
    okContainer (WaitStatus.ofSignal s true) (.killed s)) = true := by decide +kernel

/-- the two tables of a classifier, read as statements about every exit code and every signal -/
private theorem of_tables {ok : Nat → Outcome → Bool}
    (he : exitCodes.all (fun c => ok (WaitStatus.ofExit c) (.exit c)) = true)
    (hs : signals.all (fun s => ok (WaitStatus.ofSignal s false) (.killed s) &&
      ok (WaitStatus.ofSignal s true) (.killed s)) = true) :
    (∀ c, c < 256 → ok (WaitStatus.ofExit c) (.exit c) = true) ∧
    (∀ s, 1 ≤ s → s ≤ 64 → ∀ core, ok (WaitStatus.ofSignal s core) (.killed s) = true) := by
  refine ⟨fun c hc => List.all_eq_true.mp he c (List.mem_range.mpr hc), fun s h1 h2 core => ?_⟩
  have hm : s ∈ signals := List.mem_map.mpr ⟨s - 1, List.mem_range.mpr (by omega), by omega⟩
  have := Bool.and_eq_true_iff.mp (List.all_eq_true.mp hs s hm)
  cases core
  · exact this.1
  · exact this.2

/-- **ptrace runner**: every exit code 0..255 and every signal 1..64 (± core dump) of the main
process is classified per the documented table, and the run ends. -/
theorem C09_ptrace :
    (∀ c, c < 256 → okPtrace (WaitStatus.ofExit c) (.exit c) = true) ∧
    (∀ s, 1 ≤ s → s ≤ 64 → ∀ core, okPtrace (WaitStatus.ofSignal s core) (.killed s) = true) :=
  of_tables ptrace_exit_tbl ptrace_signal_tbl

/-- **namespace runner**, same domain. -/
theorem C09_unshare :
    (∀ c, c < 256 → okUnshare (WaitStatus.ofExit c) (.exit c) = true) ∧
    (∀ s, 1 ≤ s → s ≤ 64 → ∀ core, okUnshare (WaitStatus.ofSignal s core) (.killed s) = true) :=
  of_tables unshare_exit_tbl unshare_signal_tbl

/-- **container runner** (convertReply in init ∘ gob field mapping ∘ convertReplyResult on the
host), same domain. -/
theorem C09_container :
    (∀ c, c < 256 → okContainer (WaitStatus.ofExit c) (.exit c) = true) ∧
    (∀ s, 1 ≤ s → s ≤ 64 → ∀ core, okContainer (WaitStatus.ofSignal s core) (.killed s) = true) :=
  of_tables container_exit_tbl container_signal_tbl

/-- what a *child* of the program does when it exits or is killed by a signal other than SIGSYS
never finishes the ptrace run nor changes the verdict (the child is just continued/forgotten).
A child killed by SIGSYS — the seccomp filter's kill — ends the run as Disallowed Syscall (C03). -/
def childIgnored (ws : Nat) : Bool :=
  match runPtrace mainPid otherPid ws true true {} with
  | .ok r => !r.finished && r.status == Int.ofNat Gen.Consts.runner_StatusNormal
  | .error _ => false

def childDisallowed (ws : Nat) : Bool :=
  match runPtrace mainPid otherPid ws true true {} with
  | .ok r => r.status == Int.ofNat Gen.Consts.runner_StatusDisallowedSyscall
  | .error _ => false

theorem C09_children_ignored :
    exitCodes.all (fun c => childIgnored (WaitStatus.ofExit c)) = true ∧
    (signals.filter (· != 31)).all (fun s => childIgnored (WaitStatus.ofSignal s false) && childIgnored (WaitStatus.ofSignal s true)) = true ∧
    (childDisallowed (WaitStatus.ofSignal 31 false) && childDisallowed (WaitStatus.ofSignal 31 true)) = true := by
  decide +kernel

/-- signals whose default action terminates and that the classifier does not turn into a limit
verdict at the signal-delivery stop (SIGXCPU/SIGXFSZ are C08's) -/
def fatalSignals : List Nat :=
  signals.filter (fun s => !([17, 18, 19, 20, 21, 22, 23, 28, 24, 25].contains s))

def delivered (pid s : Nat) : Bool :=
  match runPtrace mainPid pid (WaitStatus.ofStop s 0) true true {} with
  | .ok r => r.log == [s!"cont {pid} {s}"] && r.status == Int.ofNat Gen.Consts.runner_StatusNormal && !r.finished
  | .error _ => false

/-- **a fatal signal raised by the program reaches it**: at the signal-delivery stop of any
terminating signal (SIGTRAP included — a trap stop without ptrace event) the tracer continues
the tracee *with that signal*, so the kernel terminates it and `C09_ptrace` classifies the death.
(False before the `fix:` commit for SIGTRAP: the tracee was continued with signal 0.) -/
theorem C09_fatal_signal_delivered :
    fatalSignals.all (fun s => delivered mainPid s && delivered otherPid s) = true := by decide +kernel

/-- the finite alphabet of events used for the "Runner Error is explained" theorem -/
def eventAlphabet : List Nat :=
  [0, 1].map WaitStatus.ofExit ++ [9, 11].map (WaitStatus.ofSignal · false) ++
  ([5, 19, 24].flatMap (fun s => [0, 1, 4, 7].map (fun ev => WaitStatus.ofStop s ev)))

def explained (ws : Nat) (pid : Nat) (execved traced setOptFails : Bool) (trapErr : Option String) : Bool :=
  match runPtrace mainPid pid ws execved traced { setOptFails := setOptFails, trapError := trapErr } with
  | .ok r => r.status != Int.ofNat Gen.Consts.runner_StatusRunnerError || r.errStr != ""
  | .error _ => false

/-- every path of the ptrace classifier that yields Runner Error carries a non-empty explanation
(over the event alphabet × {main, child} × execved × already-traced × failing set-options ×
handler error). -/
theorem C09_runner_error_explained :
    eventAlphabet.all (fun ws => [mainPid, otherPid].all (fun pid => [true, false].all (fun ex =>
      [true, false].all (fun tr => [true, false].all (fun so => [none, some "disallowed"].all (fun te =>
        explained ws pid ex tr so te)))))) = true := by decide +kernel

/-- container: a failing wait4 or an unknown status is a Runner Error *with* a message. -/
theorem C09_container_error_explained :
    (match runContainer 0 true with | .ok r => statusOf r.status == some .runnerError && r.error != "" | _ => false) = true ∧
    (match runContainer (WaitStatus.ofStop 19 0) false with | .ok r => statusOf r.status == some .runnerError && r.error != "" | _ => false) = true := by
  decide +kernel

/-! non-vacuity: the domain lists are what they say -/
example : exitCodes.length = 256 ∧ signals.length = 64 ∧ signals.head? = some 1 ∧ signals.getLast? = some 64 := by decide +kernel
example : eventAlphabet.length = 16 := by decide +kernel
example : fatalSignals.length = 54 ∧ 5 ∈ fatalSignals ∧ 11 ∈ fatalSignals := by decide +kernel

end GoSandbox.Props.C09
