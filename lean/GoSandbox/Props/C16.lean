/-
C16 — If the controlling process dies, the sandbox dies with it.
Two independent mechanisms: (1) PDEATHSIG=SIGKILL on the container init and PTRACE_O_EXITKILL on
every tracee (kernel laws; presence tied to the code by extraction); (2) socket EOF: from every
reachable protocol state, once the host is gone the container init reaches exit on its own — every
blocking wait of the container has the `done` alternative (extracted select statements).
Kernel delivery of PDEATHSIG/EOF/EXITKILL is assumed (partial); the harness kills a real controller
at every announced protocol point.  PROPERTY THEOREMS ONLY.
-/
import GoSandbox.Model.Rpc
import GoSandbox.Gen.C16
import GoSandbox.Lemmas.ForkSkeleton
namespace GoSandbox.Props.C16
open GoSandbox.Model.Rpc

/-- **by EOF alone**: kill the host in *any* reachable state of *any* operation (idle, during
synchronisation, while a program runs, during a file operation, with messages in flight): every
continuation ends with the container init exited (which kills its whole pid namespace). -/
theorem C16_container_dies_by_eof :
    allOps.all (fun op => [true, false].all (fun fixed =>
      (reachable ⟨fixed, op⟩).all (fun s => crashAllDie ⟨fixed, op⟩ 12 s))) = true := by
  decide +kernel

/-- the model's EOF rule is what the code does: every `select` of the container package that can
block has the `done` alternative — the only exception is the reaper goroutine's own loop, which
holds no protocol state (init's deferred os.Exit ends it). -/
theorem C16_selects_have_done :
    Gen.C16.selects.all (fun (_, fn, cases) => cases.contains "<-c.done" || fn == "waitLoop") = true ∧
    Gen.C16.selects.any (fun (_, fn, _) => fn == "handleExecveStarted") = true ∧
    Gen.C16.selects.any (fun (_, fn, _) => fn == "recvCmd") = true ∧
    Gen.C16.selects.any (fun (_, fn, _) => fn == "sendReplyFiles") = true := by
  decide +kernel

/-- **by parent-death signal**: the container init is started with Pdeathsig = SIGKILL. -/
theorem C16_pdeathsig : Gen.C16.sysProcAttr.contains "Pdeathsig=syscall.SIGKILL" = true := by decide +kernel

/-- **tracees die with the tracer**: PTRACE_O_EXITKILL is among the options set on every tracee
(C09/C15: options are set at the first stop of every new tracee, before it is continued). -/
theorem C16_exitkill : Gen.C16.ptraceOptions.contains "PTRACE_O_EXITKILL" = true := by decide +kernel

open GoSandbox.Model.ForkSkeleton GoSandbox.Model.ForkOpts in
/-- **before the first stop**: PTRACE_O_EXITKILL only exists from the tracee's first stop on. For EVERY
option set, the launch makes itself traceable exactly as often as it asks for SIGKILL on the death of its
parent (PR_SET_PDEATHSIG), and with ptrace on it does both. (Statement about the launch skeleton, which C04
ties to the regenerated forkAndExecInChild; the order — pdeathsig, parent check, then traceme — is the
definition of `tracemeSteps` and is stated on a family below.) -/
theorem C16_traced_child_asks_pdeathsig (o : Opts) :
    (skeleton o).count Step.prctl_pdeathsig = (skeleton o).count Step.ptrace_traceme ∧
    (o.ptrace = true → Step.prctl_pdeathsig ∈ skeleton o) := by
  open Lemmas.ForkSkeleton in simp [count_skeleton, mem_skeleton, mult]

open GoSandbox.Model.ForkSkeleton GoSandbox.Model.ForkOpts in
/-- the order on a family (a bounded statement; `Lemmas.ForkSkeleton.findIdx?_traceme` has it for every option set): for all 2^9 settings of the options that
shape the launch around the trace point (seccomp, sync callback, late cgroup unshare, credential, capability
drop, stop-before-seccomp, user namespace, pid namespace, exec descriptor), with ptrace on: the parent-death
request comes before the first PTRACE_TRACEME, and the parent check sits between them unless the pid
namespace is new -/
theorem C16_pdeathsig_before_traceme_family :
    ((List.range 512).all fun n =>
      let b (i : Nat) : Bool := n / 2 ^ i % 2 == 1
      let o : Opts := { ptrace := true, seccomp := b 0, syncFunc := b 1, ucas := b 2, cred := b 3, dropCaps := b 4, stopBefore := b 5,
                        newUser := b 6, newPid := b 7, execFile := if b 8 then 9 else 0, nMounts := 1, nRlimits := 1 }
      let l := skeleton o
      match l.findIdx? (· == Step.prctl_pdeathsig), l.findIdx? (· == Step.ptrace_traceme) with
      | some i, some j => i < j && (o.newPid || l.getD (i + 1) Step.execve == Step.getppid) && (j == i + (if o.newPid then 1 else 2))
      | _, _ => false) = true := by
  refine List.all_eq_true.mpr fun n _ => ?_
  extract_lets b o l
  obtain ⟨i, h1, h2, h3⟩ := Lemmas.ForkSkeleton.findIdx?_traceme o rfl
  simp only [l, h1, h2]
  cases hn : o.newPid <;> simp [hn, List.getD_eq_getElem?_getD, h3]

open GoSandbox.Model.ForkSkeleton GoSandbox.Model.ForkOpts GoSandbox.Model.ForkChildRun in
/-- the regenerated child, orphaned before the trace point (getppid answers a pid that is not the launcher's —
pid 1 or any sub-reaper): it gives up with an error; it never makes itself traceable and never execs -/
def orphanGivesUp (o : Opts) (adopter : Int) : Bool :=
  match runChild (launchOf o) { fds := [(100, 50, true), (101, 50, true)], pipeIn := [0, 0, 0], ppidNow := adopter } with
  | .ok out =>
    let names := out.w.trace.reverse.map (fun s => sysName s.nr)
    !out.w.execed && out.w.exited.isSome && !names.contains "ptrace" && !names.contains "execve" && !names.contains "execveat"
  | .error _ => false

open GoSandbox.Model.ForkSkeleton GoSandbox.Model.ForkOpts GoSandbox.Model.ForkChildRun in
theorem C16_gen_orphan_gives_up :
    ([({ ptrace := true, seccomp := true, syncFunc := true } : Opts), { ptrace := true }, { ptrace := true, seccomp := true, cred := true, syncFunc := true }].all
      fun o => orphanGivesUp o 1 && orphanGivesUp o 77 && orphanGivesUp o 4242) = true := by
  decide +kernel

open GoSandbox.Model.ForkSkeleton GoSandbox.Model.ForkOpts in
/-- the regenerated child asks for the parent-death signal AFTER its credential change (the kernel clears the
setting whenever the effective ids change) and right before the parent check and PTRACE_TRACEME -/
theorem C16_gen_pdeathsig_after_credentials :
    ([({ ptrace := true, seccomp := true, syncFunc := true, cred := true } : Opts), { ptrace := true, cred := true },
      { ptrace := true, seccomp := true, cred := true, dropCaps := true, ucas := true, syncFunc := true }].all fun o =>
      match genLabels o with
      | .ok l =>
        (match l.findIdx? (· == Step.setuid), l.findIdx? (· == Step.prctl_pdeathsig), l.findIdx? (· == Step.ptrace_traceme) with
         | some u, some p, some t => u < p && p + 2 == t && l.getD (p + 1) Step.execve == Step.getppid &&
             l.count Step.prctl_pdeathsig == 1
         | _, _, _ => false)
      | .error _ => false) = true := by
  decide +kernel

open GoSandbox.Model.ForkSkeleton GoSandbox.Model.ForkOpts in
/-- **the child can see its launcher die while it waits for it** (every option set): the first thing the
launched child does is to close its copy of the launcher's end of the synchronisation socket, so every later
blocking read of that socket (id maps, synchronisation) returns end-of-file once the launcher is gone — the
child's own copy would keep the socket open for ever. Stated on the skeleton, which C04 ties to the regenerated
child; `C16_gen_child_closes_parent_end` evaluates the regenerated child directly. -/
theorem C16_child_closes_parent_end_first (o : Opts) :
    (skeleton o)[1]? = some Step.close_p0 ∧
    ((skeleton o)[0]? = some Step.clone ∨ (skeleton o)[0]? = some Step.clone3) := by
  unfold skeleton
  -- only the first three segments matter
  simp only [List.append_assoc]
  generalize opt o.newUser _ ++ _ = rest
  cases o.cgroupFd <;> simp [opt]

open GoSandbox.Model.ForkSkeleton GoSandbox.Model.ForkOpts in
/-- the regenerated child on a family of option sets with a synchronisation and/or a user namespace (the two
blocking reads): `close(p[0])` comes before the first read of the socket, exactly once (kernel-evaluated) -/
theorem C16_gen_child_closes_parent_end :
    ([({ syncFunc := true } : Opts), { ptrace := true, seccomp := true, syncFunc := true }, { newUser := true },
      { newUser := true, syncFunc := true, ucas := true }, { ptrace := true, seccomp := true, syncFunc := true, cred := true, newUser := true },
      { syncFunc := true, execFile := 9 }, { ptrace := true }].all fun o =>
      match genLabels o with
      | .ok l =>
        (match l.findIdx? (· == Step.close_p0) with
         | some c =>
           l.count Step.close_p0 == 1 &&
           (match l.findIdx? (fun s => s == Step.read_idmap || s == Step.read_sync) with
            | some r => c < r
            | none => !(o.syncFunc || o.newUser))
         | none => false)
      | .error _ => false) = true := by
  decide +kernel

/-! non-vacuity: the crash rule is exercised from states with messages in flight -/
example : (reachable ⟨true, .execve false .runs⟩).any (fun s => !s.h2c.isEmpty && s.c == .started) = true := by decide +kernel

/-- **end of file exists on the control socket**: the rule of the protocol model "a receive on the closed, empty
socket is end of file" (on which `C16_container_dies_by_eof` rests, and which is the only way out for an init
whose controller died before the parent-death signal was armed) needs a connection-oriented socket: the pair
is created as AF_LOCAL, SOCK_SEQPACKET, close-on-exec (regenerated from pkg/unixsocket/socket_linux.go). On a
datagram pair a blocked receive would never notice that the other end is gone. -/
theorem C16_gen_socket_is_seqpacket :
    Gen.C16.socketPairArgs = ["syscall.AF_LOCAL", "syscall.SOCK_SEQPACKET|syscall.SOCK_CLOEXEC", "0"] := rfl

end GoSandbox.Props.C16
