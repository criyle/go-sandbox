/-
C11 — Cancel/Destroy at any moment end the run promptly with a truthful verdict.
ptrace runner: exhaustive exploration of the cancellation race (Model/Cancel.lean) + the
regenerated trace loop; container: the protocol LTS of C10 with cancellation enabled at every
host location.  Real-time bounds are observed by the harness, not proved (partial).
PROPERTY THEOREMS ONLY.
-/
import GoSandbox.Gen.C17
import GoSandbox.Model.Cancel
import GoSandbox.Model.Rpc
namespace GoSandbox.Props.C11
open GoSandbox.Model.Cancel GoSandbox.Kernel

/-- **never lost** (ptrace runner): under every interleaving of the child's launch (clone, setsid,
self-stop, run, exit), the cancellation and the canceller goroutine: every run ends with a verdict;
once the canceller has issued its kill the program is never running again (so it cannot complete
later); and a Normal verdict is only given to a program that had ended on its own before that kill
(its genuine verdict) — otherwise the verdict is Time Limit Exceeded. -/
theorem C11_never_lost :
    (reachable true).all (fun s => !(s.cancellerDone && s.child == .running)) = true ∧
    (terminals true).all (fun s => s.verdict != .none && (s.verdict == .tle || !s.exitAfterKill)) = true ∧
    !(terminals true).isEmpty = true := by
  decide +kernel

/-- without the repeated kill (the pinned tree) the cancellation can be lost: the canceller's
kill(-pgid) runs while the child has not yet called setsid (ESRCH), the program keeps running and
completes after the kill. -/
theorem C11_lost_witness :
    (reachable false).any (fun s => s.cancellerDone && s.child == .running) = true ∧
    (terminals false).any (fun s => s.exitAfterKill && s.verdict == .normal) = true := by
  decide +kernel

/-- **a genuine verdict is kept**: a program that ended on its own before any cancellation is
reported with its own verdict, not TLE. -/
theorem C11_genuine_verdict :
    (terminals true).all (fun s => s.cancelBeforeExit || s.verdict == .normal) = true := by decide +kernel

def mainPid : Nat := 4242

/-- **tie to the code**: in the regenerated trace loop, once the context is cancelled every
iteration issues the group kill before the event is handled (and none when not cancelled), for the
first stop of the child, a later stop and an exit event. -/
theorem C11_tie_rekill :
    [(WaitStatus.ofStop 19 0, false), (WaitStatus.ofStop 5 4, false), (WaitStatus.ofStop 11 0, true), (WaitStatus.ofExit 0, true)].all
      (fun (ws, ex) =>
        (match iteration mainPid mainPid ws ex true with
         | .ok l => l == ["wait4", s!"killAll {mainPid}", "handle"] | .error _ => false) &&
        (match iteration mainPid mainPid ws ex false with
         | .ok l => l == ["wait4", "handle"] | .error _ => false)) = true := by decide +kernel

/-- killAll signals the whole process group with SIGKILL, in both runners. -/
theorem C11_killAll_group :
    [Gen.C11.killAllPtrace, Gen.C11.killAllUnshare].all (fun f =>
      match killTargets f 4242 with | .ok l => l == [(-4242, Int.ofNat Gen.Consts.unix_SIGKILL)] | .error _ => false) = true := by
  decide +kernel

/-- **the clean-up after a (cancelled) run waits for the run's own processes only** (regenerated fact): every
`wait4` of the ptrace tracer and of the namespace runner selects the program's pid or its process group — a
wait for "any child" would block until unrelated children of the host process (another run, a container
environment) end, and the run would not return within bounded time. -/
theorem C11_gen_cleanup_waits_own_group :
    (Gen.C17.waitSites.filter (fun s => s.1 == "ptracer/tracer_track_linux.go" || s.1 == "runner/unshare/run_linux.go")).all
      (fun s => s.2.2 == "pgid" || s.2.2 == "-pgid") = true ∧
    (Gen.C17.waitSites.filter (fun s => s.2.1 == "collectZombie")).map (·.2.2) = ["-pgid", "-pgid"] := by
  decide +kernel

/-- **container**: cancellation is enabled at every host location of an Execve in the protocol
model; every maximal run still ends with the host returned and the environment in sync, in a
bounded number of steps (no run exhausts the exploration depth). -/
theorem C11_container_cancel_terminates :
    [true, false].all (fun sa => [Model.Rpc.Outcome.runs, .callbackFails, .failAfterAck].all (fun o =>
      (Model.Rpc.runs ⟨true, .execve sa o⟩ 30 Model.Rpc.St.init).all (fun r =>
        r.1.length < 30 && Model.Rpc.inSync r.2 && (Model.Rpc.steps ⟨true, .execve sa o⟩ r.2).isEmpty))) = true := by
  decide +kernel

/-! non-vacuity -/
example : (reachable true).length ≥ 10 := by decide +kernel
example : (terminals true).any (fun s => s.cancelBeforeExit) = true ∧ (terminals true).any (fun s => !s.cancelBeforeExit) = true := by
  decide +kernel

end GoSandbox.Props.C11
