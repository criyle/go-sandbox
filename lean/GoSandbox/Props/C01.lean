/-
C01 — The compiled seccomp filter implements the declared syscall policy exactly.
PROPERTY THEOREMS ONLY (lemmas: Lemmas/BPF.lean).
-/
import GoSandbox.Model.SeccompValidate
import GoSandbox.Model.SeccompGen
namespace GoSandbox.Props.C01
open GoSandbox.Kernel.BPF GoSandbox.Spec.SeccompPolicy GoSandbox.Lemmas.BPF GoSandbox.Model.SeccompValidate

/-- **Verified translation validator.**  If `validate prog pol` answers `true`, then for *every*
`seccomp_data` — all 2^32 syscall numbers, all architecture tags, arbitrary instruction pointer
and argument words — the cBPF program returns exactly the action the policy specifies:
ALLOW for allow-listed numbers of the native ABI, TRACE for trace-listed ones, the x32 refusal for
numbers carrying the x32 bit, the default action for every other number and for every foreign
architecture tag.  (Any program: the generator is not trusted, its output is validated.) -/
theorem C01_validator_sound (prog : List Insn) (p : Policy) (h : validate prog p = true) :
    ∀ d : Data, exec prog d = some (expected p d) := by
  simp only [validate, Bool.and_eq_true, List.all_eq_true, beq_iff_eq] at h
  exact exec_eq_expected_of_reps h.1 (fun _ hk => (mem_dedup ..).mpr (List.mem_append_left _ hk))
    (fun _ hk => (mem_dedup ..).mpr (List.mem_append_right _ hk)) h.2

/-- a foreign ABI is never treated better than the default action: another architecture tag gets
the default action whatever its number. -/
theorem C01_foreign_arch (p : Policy) (d : Data) (h : d.arch ≠ p.nativeArch) : expected p d = p.defaultRet := by
  simp [expected, h]

/-- numbers carrying the x32 bit are refused outright on the native ABI. -/
theorem C01_x32_refused (p : Policy) (d : Data) (ha : d.arch = p.nativeArch) (hx : d.nr ≥ p.x32Bit) :
    expected p d = p.x32Ret := by
  simp [expected, ha, hx]

/-! ### non-vacuity: a small real-shaped filter (arch check, x32 guard, one allow, one trace) validates,
and a filter with jt/jf swapped in the allow test does not -/

def tinyPolicy : Policy :=
  { allow := [1], trace := [59], defaultRet := 0x80000000, nativeArch := 0xc000003e,
    allowRet := 0x7fff0000, traceRet := 0x7ff00000, x32Bit := 0x40000000, x32Ret := 0x00050026 }

def tinyProg : List Insn := [
  ⟨0x20, 0, 0, 4⟩, ⟨0x15, 1, 0, 0xc000003e⟩, ⟨0x06, 0, 0, 0x80000000⟩,
  ⟨0x20, 0, 0, 0⟩, ⟨0x35, 0, 1, 0x40000000⟩, ⟨0x06, 0, 0, 0x00050026⟩,
  ⟨0x15, 0, 1, 1⟩, ⟨0x06, 0, 0, 0x7fff0000⟩,
  ⟨0x15, 0, 1, 59⟩, ⟨0x06, 0, 0, 0x7ff00000⟩,
  ⟨0x06, 0, 0, 0x80000000⟩]

def tinyProgSwapped : List Insn := tinyProg.set 6 ⟨0x15, 1, 0, 1⟩

theorem C01_tiny_validates : validate tinyProg tinyPolicy = true ∧ validate tinyProgSwapped tinyPolicy = false := by
  decide +kernel

example : ∀ d, exec tinyProg d = some (expected tinyPolicy d) := C01_validator_sound _ _ C01_tiny_validates.1

/-! ### the glue around the generator: regenerated code evaluated in the kernel -/
open GoSandbox.Model.SeccompGen

def KILL : Int := Gen.Consts.libseccomp_ActionKillProcess

/-- **fail closed**: every action value whose low 16 bits are not allow/errno/trace — the unset
value 0, the named kill action, unknown numbers, and any of those with high (return-data) bits —
is compiled to KILL_PROCESS; allow/errno/trace keep their meaning under high bits.
(Sample of the 32-bit domain, evaluated on the regenerated ToSeccompAction/Action.) -/
theorem C01_fail_closed :
    [0, 4, 5, 6, 7, 100, 0xffff, 0x10000, 0x10004, 0x20000, 0xffff0000, 0x7fff0000].all
      (fun a => match runAction a with | .ok r => r == KILL | .error _ => false) = true ∧
    [(1, Gen.Consts.libseccomp_ActionAllow), (2, Gen.Consts.libseccomp_ActionErrno), (3, Gen.Consts.libseccomp_ActionTrace),
     (0x10001, Gen.Consts.libseccomp_ActionAllow), (0x50002, Gen.Consts.libseccomp_ActionErrno), (0xffff0003, Gen.Consts.libseccomp_ActionTrace)].all
      (fun (a, w) => match runAction a with | .ok r => r == Int.ofNat w | .error _ => false) = true := by
  decide +kernel

/-- **the declared policy is what is handed to the generator**: `Build` passes exactly two groups,
(ALLOW, Allow names) then (TRACE, Trace names), and the default action is ToSeccompAction(Default). -/
theorem C01_build_groups :
    (match runBuild ["read", "write"] ["open"] 3 with
     | .ok (d, gs) => d == Int.ofNat Gen.Consts.libseccomp_ActionTrace &&
         gs == [(Int.ofNat Gen.Consts.libseccomp_ActionAllow, ["read", "write"]), (Int.ofNat Gen.Consts.libseccomp_ActionTrace, ["open"])]
     | .error _ => false) = true ∧
    (match runBuild [] ["execve"] 0 with
     | .ok (d, gs) => d == KILL && gs == [(Int.ofNat Gen.Consts.libseccomp_ActionAllow, []), (Int.ofNat Gen.Consts.libseccomp_ActionTrace, ["execve"])]
     | .error _ => false) = true := by
  decide +kernel

/-- **export is lossless**: sockFilter copies (op, jt, jf, k) field by field, in order. -/
theorem C01_export_lossless :
    (match runSockFilter [(0x20, 0, 0, 4), (0x15, 1, 2, 0xc000003e), (0x35, 7, 9, 0x40000000), (0x06, 0, 0, 0x7fff0000)] with
     | .ok l => l == [(0x20, 0, 0, 4), (0x15, 1, 2, 0xc000003e), (0x35, 7, 9, 0x40000000), (0x06, 0, 0, 0x7fff0000)]
     | .error _ => false) = true := by decide +kernel

/-- **cleanTrace**: allow and trace become disjoint sets with trace taking precedence. -/
theorem C01_cleanTrace :
    (match runCleanTrace ["a", "b", "c", "a"] ["b", "d", "b"] with
     | .ok (a, t) => a == ["a", "c"] && t == ["b", "d"]
     | .error _ => false) = true := by decide +kernel

end GoSandbox.Props.C01
