/-
C20 — Cgroup handles control exactly their own group; usage in documented units.
Theorems about Model/Cgroup.lean: (d) ownership over all histories of mkdir/Destroy/external
changes (hand model, induction), (b) all interleavings of two concurrent creators at stat/mkdir
granularity, (a) cpu.stat conversion, (c) facts about the regenerated Destroy/EnsureDirExists/
AddProc evaluated by the kernel.  Tied to pkg/cgroup by the differential on the real cgroup v1
hierarchy and a real cgroup2 mount.  PROPERTY THEOREMS ONLY (helper lemmas marked private).
-/
import GoSandbox.Model.CpusetInherit
import GoSandbox.Model.Cgroup
import GoSandbox.Lemmas.Cgroup
namespace GoSandbox.Props.C20
open GoSandbox.Model.Cgroup GoSandbox.Lemmas.Cgroup

/-! ### ownership over histories -/

def Good (e : Hid × Dir × Option Hid) : Prop := e.2.2 = some e.1

/-- the invariant: a live handle's created directories exist and are recorded as made by it;
every removal so far removed a directory made by the removing handle -/
structure Inv (s : OSt) : Prop where
  own : ∀ h d, (s.hs h).dead = false → d ∈ (s.hs h).created → owner s.fs d = some (some h)
  log : ∀ e ∈ s.removed, Good e

/-- A step by handle `h` that leaves it the record `v`, the table `fs` and the log `log` keeps the
invariant if (`hfs`) a directory recorded as made by another handle keeps its record, (`hv`) what `v`
lists as created, if `v` is still alive, is recorded as made by `h`, and (`hlog`) the log is good. -/
private theorem Inv.step {s : OSt} (hi : Inv s) (h : Hid) (v : Handle) {fs : List (Dir × Option Hid)}
    {log : List (Hid × Dir × Option Hid)}
    (hfs : ∀ k d, k ≠ h → owner s.fs d = some (some k) → owner fs d = some (some k))
    (hv : ∀ d, v.dead = false → d ∈ v.created → owner fs d = some (some h))
    (hlog : ∀ e ∈ log, Good e) :
    Inv { s with fs := fs, hs := setH s.hs h v, removed := log } :=
  ⟨fun k d hl hm => by
    dsimp only at hl hm
    by_cases hk : k = h
    · subst hk; rw [setH_same] at hl hm; exact hv d hl hm
    · rw [setH_other _ _ hk] at hl hm; exact hfs k d hk (hi.own k d hl hm), hlog⟩

theorem step_inv (s : OSt) (op : OOp) (hi : Inv s) : Inv (ostep s op) := by
  -- `ostep`'s branches in order: 1–3 `.mk`, 4–6 `.destroy`, 7–8 `.extMk`, 9–10 `.extRm`
  fun_cases ostep s op with
  | case1 | case4 | case7 | case10 => exact hi    -- a dead handle, or an external change that does not apply
  | case2 h d =>    -- mkdir finds `d` there: `created` and `dead` stay
    exact hi.step h _ (fun _ _ _ ho => ho) (hi.own h) hi.log
  | case3 h d _ _ ho =>    -- mkdir makes `d`
    exact hi.step h _ (fun _ _ _ => owner_cons_of_none ho) (fun d' hl hm => by
      rcases List.mem_cons.mp hm with rfl | hm
      · rw [owner_cons, if_pos rfl]
      · exact owner_cons_of_none ho (hi.own h d' hl hm)) hi.log
  | case5 h =>    -- Destroy through a handle on an existing group: only `dead` is set
    exact hi.step h _ (fun _ _ _ ho => ho) nofun hi.log
  | case6 h _ hdead _ fs log hL =>    -- Destroy runs its loop over `created`, then the handle is dead
    obtain ⟨g1, g2⟩ := destroyLoop_spec s.par h (s.hs h).created s.fs s.removed
      (fun d hm o ho => by
        rw [hi.own h d (Bool.eq_false_iff.mpr hdead) hm] at ho; exact (Option.some.inj ho).symm)
      hi.log
    rw [hL] at g1 g2
    exact hi.step h _ (fun k d hk ho => by rw [g2 d (by rw [ho]; simpa using hk), ho]) nofun g1
  | case8 d hp =>    -- someone else makes `d`
    exact ⟨fun k d' hl hm =>
      owner_cons_of_none (Option.not_isSome_iff_eq_none.mp hp) (hi.own k d' hl hm), hi.log⟩
  | case9 d hp =>    -- someone else removes `d`, which no handle made
    exact ⟨fun k d' hl hm => by
      have := hi.own k d' hl hm
      rw [owner_filter_of_ne (by simp [hp, this]), this], hi.log⟩

/-- the hierarchy before the library is used: any set of groups already there -/
def initial (pre : List Dir) : OSt := { fs := pre.map (fun d => (d, none)) }

theorem initial_inv (pre : List Dir) : Inv (initial pre) :=
  ⟨fun _ _ _ => List.not_mem_nil.elim, fun _ => List.not_mem_nil.elim⟩

theorem run_inv (ops : List OOp) : ∀ s, Inv s → Inv (orun ops s) := by
  induction ops with
  | nil => exact fun _ h => h
  | cons op rest ih => exact fun s h => ih _ (step_inv s op h)

/-- **Destroy removes only what the handle created**: over every history of creating calls (at the
granularity of single mkdirs, so concurrent creators are arbitrary interleavings), Destroys and
changes made by others, every directory removed by a Destroy had been made by that very handle. -/
theorem C20_destroy_only_own (pre : List Dir) (ops : List OOp) :
    ∀ e ∈ (orun ops (initial pre)).removed, e.2.2 = some e.1 :=
  (run_inv ops _ (initial_inv pre)).log

/-- **never a pre-existing one**: no Destroy ever removes a directory that was there before or
that someone else made. -/
theorem C20_never_preexisting (pre : List Dir) (ops : List OOp) :
    ∀ e ∈ (orun ops (initial pre)).removed, e.2.2 ≠ none := by
  intro e he
  rw [C20_destroy_only_own pre ops e he]
  exact Option.some_ne_none _

/-- **distinct groups**: two different live handles never both count one directory as created by
them — whatever the interleaving of their mkdirs. -/
theorem C20_created_distinct (pre : List Dir) (ops : List OOp) (h1 h2 : Hid) (d : Dir) (hne : h1 ≠ h2) :
    let s := orun ops (initial pre)
    (s.hs h1).dead = false → (s.hs h2).dead = false → d ∈ (s.hs h1).created → d ∉ (s.hs h2).created := by
  intro s l1 l2 m1 m2
  have i := run_inv ops _ (initial_inv pre)
  have := (i.own h1 d l1 m1).symm.trans (i.own h2 d l2 m2)
  exact hne (Option.some.inj (Option.some.inj this))

/-- **a handle on an existing group removes nothing** -/
theorem C20_existing_removes_nothing (s : OSt) (h : Hid) (hex : (s.hs h).existing = true) :
    (ostep s (.destroy h)).fs = s.fs ∧ (ostep s (.destroy h)).removed = s.removed := by
  simp only [ostep]
  by_cases hd : (s.hs h).dead = true <;> simp [hd, hex]

/-- non-vacuity: a history with a pre-existing group 0, two handles racing for group 1 (handle 7
wins), handle 8 opening the pre-existing group; all are destroyed; only 1 is removed, by 7. -/
example : (orun [.mk 7 1, .mk 8 1, .mk 9 0, .destroy 8, .destroy 9, .destroy 7] (initial [0])).removed = [(7, 1, some 7)] := by decide +kernel
example : ((orun [.mk 7 1, .mk 8 1, .mk 9 0, .destroy 8, .destroy 9, .destroy 7] (initial [0])).fs.map (·.1)) = [0] := by decide +kernel

/-! ### two concurrent creators, every interleaving -/

/-- **repaired tree**: with the atomic mkdir, in every interleaving exactly one of two concurrent
creators of a new group is its creator, and none when the group was already there. -/
theorem C20_concurrent_one_creator :
    (cterminals true false).all (fun s => (s.a = .done true ∧ s.b = .done false) ∨ (s.a = .done false ∧ s.b = .done true)) = true ∧
    (cterminals true true).all (fun s => s.a = .done false ∧ s.b = .done false) = true ∧
    (cterminals true false).length > 0 := by decide +kernel

/-- **pinned tree (defect #17, repaired by a fix: commit)**: with stat-then-MkdirAll there is an
interleaving in which both creators believe they created the group — each would remove it. -/
theorem C20_stat_then_mkdirall_double_owner :
    (cterminals false false).any (fun s => s.a = .done true ∧ s.b = .done true) = true := by decide +kernel

/-! ### usage units -/

/-- **CPU usage is nanoseconds**: whatever the content of cpu.stat, a value returned is 1000 times
the decimal second field of a two-field line whose first field is `usage_usec`. -/
theorem C20_cpu_usage_units (content : List Char) (v : Nat) (h : cpuUsage content = some v) :
    ∃ ln ∈ lines content, ∃ x n, fields ln = ["usage_usec".toList, x] ∧ atoi x = some n ∧ v = n * 1000 := by
  revert h
  fun_cases cpuUsage content with
  | case1 ln hf k x hfl =>
    intro h
    have hp := List.find?_some hf
    rw [hfl] at hp
    obtain ⟨n, ha, rfl⟩ := Option.map_eq_some_iff.mp h
    exact ⟨ln, List.mem_of_find?_eq_some hf, x, n, by rw [hfl, eq_of_beq hp], ha, rfl⟩
  | case2 | case3 => nofun

example : cpuUsage "user_usec 5\nusage_usec extra 9\nusage_usec 1234\nusage_usec 7\n".toList = some 1234000 := by decide +kernel
example : cpuUsage "user_usec 5\nusage_usec_total 3\n".toList = none := by decide +kernel
example : cpuUsage "usage_usec 18446744073709551\n".toList = some 18446744073709551000 := by decide +kernel

/-! ### the regenerated functions (evaluated by the kernel) -/

def okIs {α : Type} [BEq α] (r : Except String α) (v : α) : Bool := match r with | .ok x => x == v | .error _ => false

/-- Destroy of the regenerated code removes exactly the created directories of a creating handle
and nothing for a handle on an existing group (ties `ostep .destroy` to pkg/cgroup/v1_linux.go) -/
theorem C20_gen_destroy :
    okIs (genDestroyV1 ["/cg/cpu/a", "/cg/mem/a", "/cg/pids/a"] ["/cg/cpu/a", "/cg/pids/a"] false) ["rmdir /cg/cpu/a", "rmdir /cg/pids/a"] = true ∧
    okIs (genDestroyV1 ["/cg/cpu/a", "/cg/mem/a"] [] true) [] = true ∧
    okIs (genDestroyV1 ["/cg/cpu/a", "/cg/mem/a"] ["/cg/mem/a"] true) [] = true := by decide +kernel

/-- the regenerated EnsureDirExists makes the leaf with one Mkdir and reports ErrExist on EEXIST -/
theorem C20_gen_ensure_atomic :
    okIs (genEnsure "/cg/cpu/a/b" ["/cg/cpu"]) ("created", ["mkdirall /cg/cpu/a", "mkdir /cg/cpu/a/b"]) = true ∧
    okIs (genEnsure "/cg/cpu/a" ["/cg/cpu", "/cg/cpu/a"]) ("ErrExist", ["mkdirall /cg/cpu", "mkdir-eexist /cg/cpu/a"]) = true := by decide +kernel

/-- **creation is one atomic mkdir, and Existing() is its EEXIST** (regenerated `(*V2).New`, `(*V2).Nest`,
`newV2` on small worlds): the handle reports `existing` exactly when the mkdir of the group's own
directory found it there, nothing is stat'ed first, intermediate path elements of a prefix are
created without claiming them, a trailing slash does not change ownership, and `Nest` moves the
parent's processes. This is `ostep (.mk h d)` for the v2 code. -/
theorem C20_gen_v2_create :
    okIs (genNewSubV2 false "/cg/top" "a" ["/cg/top"]) (false, "/cg/top/a", ["/cg/top", "/cg/top/a"], ["mkdir /cg/top/a"]) = true ∧
    okIs (genNewSubV2 false "/cg/top" "a" ["/cg/top", "/cg/top/a"]) (true, "/cg/top/a", ["/cg/top", "/cg/top/a"], ["mkdir-eexist /cg/top/a"]) = true ∧
    okIs (genNewSubV2 true "/cg/top" "a" ["/cg/top"]) (false, "/cg/top/a", ["/cg/top", "/cg/top/a"], ["mkdir /cg/top/a", "addproc 2"]) = true ∧
    okIs (genNewSubV2 true "/cg/top" "a" ["/cg/top", "/cg/top/a"]) (true, "/cg/top/a", ["/cg/top", "/cg/top/a"], ["mkdir-eexist /cg/top/a", "addproc 2"]) = true ∧
    okIs (genNewV2 "x/y" ["/cg"]) (false, "/cg/x/y", ["/cg", "/cg/x", "/cg/x/y"], ["mkdir /cg/x", "mkdir /cg/x/y"]) = true ∧
    okIs (genNewV2 "x/y" ["/cg", "/cg/x"]) (false, "/cg/x/y", ["/cg", "/cg/x", "/cg/x/y"], ["mkdir-eexist /cg/x", "mkdir /cg/x/y"]) = true ∧
    okIs (genNewV2 "x/y" ["/cg", "/cg/x", "/cg/x/y"]) (true, "/cg/x/y", ["/cg", "/cg/x", "/cg/x/y"], ["mkdir-eexist /cg/x", "mkdir-eexist /cg/x/y"]) = true ∧
    okIs (genNewV2 "x/" ["/cg"]) (false, "/cg/x", ["/cg", "/cg/x"], ["mkdir /cg/x", "mkdir-eexist /cg/x"]) = true := by
  decide +kernel

/-- AddProc of the regenerated v1 code writes the pid to every controller of the handle -/
theorem C20_gen_addproc_all :
    okIs (genAddProcV1 ["/cg/cpu/a", "/cg/mem/a", "/cg/pids/a"]) ["addproc /cg/cpu/a", "addproc /cg/mem/a", "addproc /cg/pids/a"] = true := by decide +kernel

/-! ### limits written stay in force: opening a group again does not touch its cpuset -/

open GoSandbox.Model.CpusetInherit in
/-- **a cpuset that is set is never overwritten** (hand model, every tree, every depth): when the
group's own file has a value, `copyCgroupPropertyFromParent` writes nothing and changes nothing — so
every constructor that opens an existing v1 group (`New` on an existing name, `OpenExisting`, `Nest`)
leaves a limit written earlier through another handle in force -/
theorem C20_set_cpuset_is_kept (n : Nat) (fs : Files) (path name c : String)
    (h : lookup fs (path ++ "/" ++ name) = some c) (hc : blank c = false) :
    copyH (n + 1) fs path name = some (fs, []) := by
  simp [copyH, h, hc]

open GoSandbox.Model.CpusetInherit in
/-- the trees the tie is evaluated on: a group whose cpuset is narrower than its parent's (with and
without trailing newline, one and two levels deep), an empty new group under a set parent, an empty
group under an empty parent under a set grandparent, a group with `cpuset.cpus` set and `cpuset.mems`
empty, and a group whose files are missing -/
def cpusetTrees : List (String × Files) := [
  ("/cs/a", [("/cs/cpuset.cpus", "0-15\n"), ("/cs/cpuset.mems", "0\n"), ("/cs/a/cpuset.cpus", "0\n"), ("/cs/a/cpuset.mems", "0\n")]),
  ("/cs/a", [("/cs/cpuset.cpus", "0-15"), ("/cs/cpuset.mems", "0-1"), ("/cs/a/cpuset.cpus", "3"), ("/cs/a/cpuset.mems", "1")]),
  ("/cs/a/b", [("/cs/cpuset.cpus", "0-15\n"), ("/cs/cpuset.mems", "0\n"), ("/cs/a/cpuset.cpus", "0-7\n"), ("/cs/a/cpuset.mems", "0\n"),
               ("/cs/a/b/cpuset.cpus", "2\n"), ("/cs/a/b/cpuset.mems", "0\n")]),
  ("/cs/a", [("/cs/cpuset.cpus", "0-15\n"), ("/cs/cpuset.mems", "0\n"), ("/cs/a/cpuset.cpus", "\n"), ("/cs/a/cpuset.mems", "")]),
  ("/cs/a/b", [("/cs/cpuset.cpus", "0-3\n"), ("/cs/cpuset.mems", "0\n"), ("/cs/a/cpuset.cpus", ""), ("/cs/a/cpuset.mems", "\n"),
               ("/cs/a/b/cpuset.cpus", ""), ("/cs/a/b/cpuset.mems", "")]),
  ("/cs/a/b", [("/cs/cpuset.cpus", "0-3\n"), ("/cs/cpuset.mems", "0\n"), ("/cs/a/cpuset.cpus", "1\n"), ("/cs/a/cpuset.mems", "0\n"),
               ("/cs/a/b/cpuset.cpus", "5\n"), ("/cs/a/b/cpuset.mems", "")]),
  ("/cs/gone", [("/cs/cpuset.cpus", "0-15\n"), ("/cs/cpuset.mems", "0\n")])]

open GoSandbox.Model.CpusetInherit in
/-- **tie**: the regenerated `initCpuset` / `copyCgroupPropertyFromParent` compute the hand model on
those trees (files afterwards, writes made, error) — kernel-evaluated -/
theorem C20_gen_cpuset_init_matches : cpusetTrees.all (fun t => agrees t.1 t.2) = true := by
  decide +kernel

open GoSandbox.Model.CpusetInherit in
/-- and on the trees where the group's values are set, the regenerated code writes nothing at all -/
theorem C20_gen_reopen_keeps_cpuset :
    (cpusetTrees.take 3).all (fun t => match genInit t.1 t.2 with
      | .ok (false, f, w) => f == t.2 && w.isEmpty
      | _ => false) = true := by
  decide +kernel

/-- non-vacuity: an empty group under an empty parent inherits the grandparent's value, parent first -/
example : (GoSandbox.Model.CpusetInherit.initH (cpusetTrees.getD 4 ("", [])).2 "/cs/a/b").map (·.2) =
    some [("/cs/a/cpuset.cpus", "0-3\n"), ("/cs/a/b/cpuset.cpus", "0-3\n"), ("/cs/a/cpuset.mems", "0\n"), ("/cs/a/b/cpuset.mems", "0\n")] := by
  decide +kernel

/-- **a handle made under a parent handle owns exactly what its own mkdirs made** (regenerated `(*V1).New`, run
for every subset of already existing controller directories, with parents that have four and two controllers):
the handle uses every controller directory of the group; it counts as created by it exactly the directories
that were NOT there (in controller order) — which are exactly the directories it made; `Existing()` is set when
the first controller's directory was there; and `New` followed by the regenerated `Destroy` removes no
directory that existed before — it removes what was created when the handle is a creating one and nothing
otherwise.  This is the step `ostep (.mk h d)` of the ownership theorems, for the v1 code under a parent. -/
theorem C20_gen_v1_new :
    ([["cpu", "cpuset", "memory", "pids"], ["memory", "pids"]].all (fun ctrls =>
      let dirOf := fun (c : String) => "/cg/" ++ c ++ "/par/job"
      (subsets ctrls).all (fun pre =>
        let dirs := pre.map dirOf
        match genNewSubV1 ctrls "job" dirs, genNewThenDestroyV1 ctrls "job" dirs with
        | .ok (allP, createdP, existing, made), .ok removed =>
          allP == ctrls.map dirOf &&
          createdP == (ctrls.filter (fun c => !pre.contains c)).map dirOf &&
          made == createdP &&
          existing == pre.contains (ctrls.headD "") &&
          dirs.all (fun d => !removed.contains ("rmdir " ++ d)) &&
          removed == (if existing then [] else createdP.map (fun d => "rmdir " ++ d))
        | _, _ => false))) = true := by
  decide +kernel

end GoSandbox.Props.C20
