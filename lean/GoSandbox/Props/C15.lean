/-
C15 — A sandboxed program cannot make the runner itself fail.
PROPERTY THEOREMS ONLY.  (String reading: hand model Model/GetString.lean, lemmas in
Lemmas/GetString.lean; tracer event handling: the regenerated Gen.C09.ptraceHandle /
Gen.C15.handleTrap evaluated in the kernel.)
-/
import GoSandbox.Model.GetString
import GoSandbox.Model.GetStringGen
import GoSandbox.Lemmas.GetString
import GoSandbox.Model.Classify
namespace GoSandbox.Props.C15
open GoSandbox.Model.GetString GoSandbox.Lemmas.GetString GoSandbox.Model.GetStringGen
open GoSandbox.Model.Classify GoSandbox.Kernel

/-- `clen` never exceeds the buffer, for every buffer (so `buff[:clen(buff)]` cannot panic). -/
theorem C15_clen_le (b : List Nat) : clen b ≤ b.length := clen_le b

/-- **GetString is total**: for every address space, every address (unterminated strings,
PATH_MAX-sized strings, strings running into unmapped pages, any pointer value) it returns a
string — no slice panic — of at most PATH_MAX bytes containing no NUL. -/
theorem C15_getstring_total (m : Mem) (addr pathMax : Nat) :
    ∃ s, getString m addr pathMax = .ok s ∧ s.length ≤ pathMax ∧ (∀ x ∈ s, x ≠ 0) := by
  obtain ⟨n, hn, h⟩ := getString_eq_takeWhile m addr pathMax
  refine ⟨_, h, ?_, fun x hx => ?_⟩
  · exact Nat.le_trans (List.takeWhile_sublist _).length_le (by simpa [Mem.bytes] using hn)
  · simpa using List.all_eq_true.mp List.all_takeWhile x hx

/-- **content**: the returned string is exactly a NUL-free prefix of the tracee's bytes at
`addr` (never bytes from elsewhere, never bytes after a NUL). -/
theorem C15_getstring_content (m : Mem) (addr pathMax : Nat) :
    ∃ s n, getString m addr pathMax = .ok s ∧ n ≤ pathMax ∧ s = (m.bytes addr n).takeWhile (· != 0) :=
  let ⟨n, hn, h⟩ := getString_eq_takeWhile m addr pathMax
  ⟨_, n, h, hn, rfl⟩

/-- **exactness (maximality)**: a C string that lies in readable memory — a NUL at offset `z` below
PATH_MAX, no NUL before it, every byte up to it readable, wherever the page boundaries fall — is
returned exactly: all `z` bytes, nothing more, nothing less. -/
theorem C15_getstring_exact (m : Mem) (hP : 0 < m.P) (addr pathMax z : Nat) (hz : z < pathMax)
    (h0 : m.byte (addr + z) = 0) (hnz : ∀ i, i < z → m.byte (addr + i) ≠ 0)
    (hread : ∀ i, i ≤ z → m.readable (addr + i) = true) :
    getString m addr pathMax = .ok (m.bytes addr z) :=
  getString_prefix hP (by omega) (fun i hi => ⟨hread i (by omega), hnz i hi⟩) fun _ => .inr h0

/-- **maximal prefix at a fault**: a string that runs into an unreadable page — the first
unreadable byte is at offset `u` below PATH_MAX, every byte before it is readable and none of them is
NUL — is returned up to exactly that byte: all `u` bytes the tracee can itself read there, nothing
invented after them, nothing dropped before them (wherever the page boundaries fall; `u = 0` is the
pointer into unmapped memory and yields the empty string). Together with `C15_getstring_exact` this
determines GetString for every string shorter than PATH_MAX. -/
theorem C15_getstring_fault_prefix (m : Mem) (hP : 0 < m.P) (addr pathMax u : Nat) (hu : u < pathMax)
    (hun : m.readable (addr + u) = false) (hnz : ∀ i, i < u → m.byte (addr + i) ≠ 0)
    (hread : ∀ i, i < u → m.readable (addr + i) = true) :
    getString m addr pathMax = .ok (m.bytes addr u) :=
  getString_prefix hP (by omega) (fun i hi => ⟨hread i hi, hnz i hi⟩) fun _ => .inl hun

/-- the pinned tree's `clen` (returns len+1 without NUL) makes GetString **panic** on a
PATH_MAX-long unterminated string: the witness that forced the `fix:` (page 4, PATH_MAX 8 scale). -/
theorem C15_clen_witness :
    (getStringOld ⟨4, fun _ => true, fun _ => 65⟩ 0 8).isOk = false ∧
    (match getString ⟨4, fun _ => true, fun _ => 65⟩ 0 8 with
     | .ok s => s == [65, 65, 65, 65, 65, 65, 65, 65] | .error _ => false) = true := by
  constructor <;> decide

/-! ### tie of the hand model to the regenerated code (a kernel-evaluated test of the tie) -/

def lists3 : Nat → List (List Nat)
  | 0 => [[]]
  | n + 1 => [] :: (lists3 n).flatMap (fun l => [0 :: l, 1 :: l, 7 :: l])

/-- regenerated `clen`/`hasNull` agree with the model on every byte list over {0,1,7} of length ≤ 5. -/
theorem C15_tie_clen :
    ((lists3 5).all (fun b =>
      (match genClen b with | .ok n => n == Int.ofNat (clen b) | .error _ => false) &&
      (match genHasNull b with | .ok r => r == hasNull b | .error _ => false))) = true := by
  decide +kernel

/-! ### a vanished tracee is not the runner's failure -/

def esrch : Option String := some "no such process"

/-- verdict of one event when ptrace requests on the stopped tracee answer ESRCH
(the tracee was SIGKILLed between the stop and the request) -/
def vanishedOk (ws pid : Nat) (traced : Bool) (decision : Nat) : Bool :=
  match runPtrace 4242 pid ws true traced { setOptFails := true, trapError := esrch, skipError := esrch, decision := decision } with
  | .ok r => r.status == Int.ofNat Gen.Consts.runner_StatusNormal && !r.finished && r.errStr == ""
  | .error _ => false

/-- stops whose handling issues ptrace requests on the tracee: first stop of a new tracee
(set-options) and seccomp traps (get-regs / set-regs) -/
def stopEvents : List Nat :=
  [5, 19].flatMap (fun s => [0, 1, 2, 3, 4, 7].map (fun ev => WaitStatus.ofStop s ev)) ++ [WaitStatus.ofStop 11 0]

/-- Both sweeps below in one evaluation: the kernel shares what all runs have in common, most of one run's cost, only within a declaration. -/
private theorem ptrace_sweep :
    stopEvents.all (fun ws => [4242, 4243].all (fun pid => [true, false].all (fun tr => [0, 1, 2].all (fun d =>
      vanishedOk ws pid tr d)))) = true ∧
    (match runPtrace 4242 4242 (WaitStatus.ofStop 5 7) true true { decision := 1, skipError := some "input/output error" } with
     | .ok r => r.status == Int.ofNat Gen.Consts.runner_StatusDisallowedSyscall
     | .error _ => false) = true := by decide +kernel

/-- **C15_vanished_tracee**: when every ptrace request of an event answers ESRCH, the event yields
no verdict at all (status Normal, not finished, no error text) — never Runner Error or Disallowed
Syscall on the program's account; its exit arrives through wait4 and is classified by C09.
(False on the pinned tree; see KNOWN_FINDINGS "fixed".) -/
theorem C15_vanished_tracee :
    stopEvents.all (fun ws => [4242, 4243].all (fun pid => [true, false].all (fun tr => [0, 1, 2].all (fun d =>
      vanishedOk ws pid tr d)))) = true := ptrace_sweep.1

/-- a failing set-regs for a *live* tracee still fails closed (Disallowed Syscall), i.e. the
ESRCH exemption does not weaken enforcement. -/
theorem C15_skip_failure_fails_closed :
    (match runPtrace 4242 4242 (WaitStatus.ofStop 5 7) true true { decision := 1, skipError := some "input/output error" } with
     | .ok r => r.status == Int.ofNat Gen.Consts.runner_StatusDisallowedSyscall
     | .error _ => false) = true := ptrace_sweep.2

/-! non-vacuity -/
example : (lists3 5).length = 364 := by decide +kernel
example : stopEvents.length = 13 := by decide +kernel
example : getString ⟨4, fun p => p == 0, fun _ => 66⟩ 1 8 = .ok [66, 66, 66] :=
  C15_getstring_fault_prefix _ (by decide) 1 8 3 (by decide) (by decide) (by intro i _; simp) (by intro i hi; simp [Mem.readable]; omega)
example : (match getString ⟨4, fun p => p == 0, fun a => if a == 2 then 0 else 66⟩ 1 8 with
    | .ok s => s == [66] | .error _ => false) = true := by decide

end GoSandbox.Props.C15
