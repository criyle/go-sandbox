/-
C13 — Pooled containers carry no state between runs; sealed executables are immutable.
PROPERTY THEOREMS ONLY.  Kernel unlink/seal semantics are assumptions (partial); the harness
builds hostile trees and inspects the mounts from the host, and attacks a real sealed memfd.
-/
import GoSandbox.Model.Reset
namespace GoSandbox.Props.C13
open GoSandbox.Model.Reset

/-- **Reset empties every tmpfs mount**: if nothing fails, after removeContents no entry remains,
whatever was there (any names, types, depths, modes). -/
theorem C13_removeContents_empties (children : List Node) :
    (removeContents children (fun _ => false)).1 = [] ∧ (removeContents children (fun _ => false)).2 = false := by
  simp [removeContents]

/-- **every writable (tmpfs) mount is cleaned, in order, and a failure is reported**: on the hand
model for every mount table — exactly the tmpfs targets are cleaned; the reply is an error iff one
of them failed, and nothing is reported as success after a failure. -/
theorem C13_reset_model (mounts : List Mnt) :
    (reset mounts []).2 = some true ∧
    (reset mounts []).1 = (mounts.filter (fun m => m.fsType == "tmpfs")).map (fun m => if m.target.startsWith "/" then m.target else "/" ++ m.target) := by
  have key : ∀ (ms : List Mnt) (acc : List String),
      reset.go [] ms acc = (acc ++ (ms.filter (fun m => m.fsType == "tmpfs")).map (fun m => if m.target.startsWith "/" then m.target else "/" ++ m.target), some true) := by
    intro ms acc
    induction ms generalizing acc with
    | nil => simp [reset.go]
    | cons m rest ih => by_cases h : m.fsType = "tmpfs" <;> simp [reset.go, h, ih]
  rw [reset, key]
  exact ⟨rfl, rfl⟩

def sampleTables : List (List Mnt × List String) := [
  ([], []),
  ([⟨"usr", ""⟩, ⟨"w", "tmpfs"⟩, ⟨"tmp", "tmpfs"⟩, ⟨"proc", "proc"⟩], []),
  ([⟨"usr", ""⟩, ⟨"w", "tmpfs"⟩, ⟨"tmp", "tmpfs"⟩, ⟨"proc", "proc"⟩], ["/w"]),
  ([⟨"w", "tmpfs"⟩, ⟨"w/sub", "tmpfs"⟩, ⟨"tmp", "tmpfs"⟩], ["/tmp"]),
  ([⟨"dev/shm", "tmpfs"⟩, ⟨"lib", ""⟩], [])]

/-- the regenerated handleReset behaves as the model: tmpfs filter, "/"+target, order, error reply
at the first failing mount, success reply otherwise (kernel-evaluated on sample tables). -/
theorem C13_tie_reset :
    sampleTables.all (fun (ms, fl) => match genReset ms fl with
      | .ok r => r == reset ms fl | .error _ => false) = true := by decide +kernel

/-- **removeContents removes every entry** (regenerated code, kernel-evaluated): whatever the names look
like — hidden, with spaces, a name that is a dangling link or a FIFO is just a name here —, however many
there are (1100 entries: more than any bounded batch a directory read might be given), and whichever
removals fail, every name the directory holds is handed to `RemoveAll`, and the error is reported iff a
removal failed or the directory could not be opened. (`RemoveAll` itself — `C13_removeContents_empties` —
removes whatever the name designates without following it.) -/
theorem C13_gen_removeContents_every_entry :
    removesEverything "/w" [] = true ∧
    removesEverything "/w" [".hidden", "..x", "a b", "dangling", "fifo", "-", "loopa", ".", "sub"] = true ∧
    removesEverything "/tmp" ["a", "b", "c"] ["/tmp/b"] = true ∧
    (genRemoveContents "/w" ["a"] [] true).toOption = some (true, []) := by
  decide +kernel

/-- the same for a directory with 300 entries, and the directory is read with ONE call that asks for
everything (a count ≤ 0: os.File returns all names then) — not with a bounded batch that would leave the
rest of a large directory behind -/
theorem C13_gen_removeContents_many_entries :
    removesEverything "/w" ((List.range 300).map (fun k => String.ofList (Nat.toDigits 10 k))) = true ∧
    (genReadCounts "/w" ["a", "b"]).toOption = some [-1] := by
  decide +kernel

/-- **sealed executable**: DupToMemfd creates, copies, seals with roSeal, rewinds — in that order —
returns a file only if every step succeeded and closes the file on every failing path. -/
theorem C13_dup_sequence :
    (match genDup none with
     | .ok (calls, ok) => ok && calls == ["New", "file.ReadFrom", s!"unix.FcntlInt({Gen.Consts.unix_F_ADD_SEALS},{Gen.Consts.roSeal})", "file.Seek(0,0)"]
     | .error _ => false) = true ∧
    ["file.ReadFrom", "unix.FcntlInt", "file.Seek"].all (fun step => match genDup (some step) with
     | .ok (calls, ok) => !ok && calls.getLast? == some "file.Close" | .error _ => false) = true ∧
    (match genDup (some "New") with | .ok (_, ok) => !ok | .error _ => false) = true := by
  decide +kernel

/-- with the seal set the code applies, every modifying operation is denied: write, pwrite,
shrinking and growing truncate, fallocate, a shared writable mapping, adding/removing seals, and
writing through a descriptor re-opened from /proc/self/fd/N. -/
theorem C13_sealed : allMOps.all (denied Gen.Consts.roSeal) = true ∧
    Gen.Consts.createFlag &&& Gen.Consts.unix_MFD_ALLOW_SEALING ≠ 0 ∧ Gen.Consts.createFlag &&& Gen.Consts.unix_MFD_CLOEXEC ≠ 0 := by
  decide

/-! non-vacuity -/
example : reset [⟨"usr", ""⟩, ⟨"w", "tmpfs"⟩, ⟨"tmp", "tmpfs"⟩] ["/tmp"] = (["/w", "/tmp"], some false) := by decide +kernel

end GoSandbox.Props.C13
