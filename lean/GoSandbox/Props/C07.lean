/-
C07 — Sync gate: no target code before approval; failed launches never run, no child left.
Child side: the regenerated forkAndExecInChild (syntactic theorem on the whole AST + kernel-
evaluated fault injection on a sample; the driver injects a fault at *every* step of sampled /
all option sets on every run).  Parent side: hand model Model/SyncParent.lean, all inputs.
PROPERTY THEOREMS ONLY.
-/
import GoSandbox.Model.ForkChecked
import GoSandbox.Model.ForkFail
import GoSandbox.Model.SyncParent
import GoSandbox.Gen.ForkChild
import GoSandbox.Gen.C17
namespace GoSandbox.Props.C07
open GoSandbox.Model.ForkChecked GoSandbox.Model.ForkFail GoSandbox.Model.ForkSkeleton GoSandbox.Model.ForkOpts
open GoSandbox.Model.SyncParent

/-- **every launch step is checked**: in the regenerated `forkAndExecInChild` every raw syscall
that keeps its errno is immediately followed by `if err1 … { childExitError… }`, and the only raw
syscalls whose result is dropped are sethostname, setdomainname, unshare(CLONE_NEWCGROUP), the
close of a "close this slot" entry and the ETXTBSY back-off sleep.  (Whole AST, every path.) -/
theorem C07_every_step_checked : scanList Gen.ForkChild.forkAndExecInChild.body = [] := by
  decide +kernel

/-- both exit helpers write the ChildError on the sync socket and then exit — in that order. -/
theorem C07_exit_helpers :
    [Gen.ForkChild.childExitError, Gen.ForkChild.childExitErrorWithIndex].all (fun f =>
      match f.body with
      | [.assign _ ":=" [.comp "ChildError" _], .expr (.call _ ((.sel _ "SYS_WRITE") :: _)), .for_ [] none [] [.expr (.call _ ((.sel _ "SYS_EXIT") :: _))]] => true
      | _ => false) = true := by decide +kernel

def faultOpts : Opts :=
  { cred := true, dropCaps := true, nnp := true, seccomp := true, syncFunc := true, ucas := true, newNs := true, workdir := true, nRlimits := 2, hostname := true }

/-- **a failure at any step never execs, exits with the errno and reports (errno, location, index)**
— kernel-evaluated for every step k of one rich option set (credential, late cgroup unshare,
seccomp, sync callback, rlimits…); the ignorable steps continue to the exec. -/
theorem C07_fail_never_execs_sample :
    ((List.range (skeleton faultOpts).length).drop 1).all (fun k => failOk faultOpts k 13) = true := by
  decide +kernel

/-- **parent**: whenever the launch is reported as failed, the child has been killed and reaped
before the call returns and both ends of the sync socket are closed; for every configuration and
every pair of messages. -/
theorem C07_reaped (c : Cfg) (cloneErr idmapErr : Nat) (first second : Msg) (syncErr : Bool) :
    let r := syncWithChild c cloneErr idmapErr first syncErr second
    (r.1 ≠ .pid → cloneErr = 0 → (r.2.getLast? = some .wait4 ∧ .kill ∈ r.2 ∧ .closeP0 ∈ r.2 ∧ .closeP1 ∈ r.2)) ∧
    (cloneErr ≠ 0 → r.1 = .childError ⟨cloneErr, locClone, 0⟩ ∧ .closeP0 ∈ r.2 ∧ .closeP1 ∈ r.2) := by
  -- by the nine returns: `(.childError _, [closeP1, closeP0])` after a failed clone, else `(.pid, _)` or
  -- `fail _ (a0 ++ … ++ [closeP0]) _`, where `a0` begins with closeP1 and `fail` appends kill, wait4
  fun_cases syncWithChild c cloneErr idmapErr first syncErr second <;>
    simp +zetaDelta [*, List.getLast?_cons, List.getLast?_append]

/-- **the callback gates the exec**: the child is only acknowledged after the callback returned
success; a failing callback is followed by kill + wait and never by the acknowledgement. -/
theorem C07_callback_gates (c : Cfg) (idmapErr : Nat) (first second : Msg) (syncErr : Bool) (h : c.hasSyncFunc = true) :
    let r := syncWithChild c 0 idmapErr first syncErr second
    (.ackChild ∈ r.2 → .callSyncFunc ∈ r.2 ∧ syncErr = false) ∧
    (syncErr = true → .ackChild ∉ r.2) := by
  -- `h` is not needed: without a callback no return contains ackChild
  clear h
  -- by the nine returns: ackChild occurs only in `a1 = a0 ++ [callSyncFunc, ackChild]`, which exists only once the
  -- callback has succeeded
  fun_cases syncWithChild c 0 idmapErr first syncErr second <;> simp +zetaDelta [*]

/-- **the error names the step**: what the parent returns is the child's report (errno, location,
index), with EPIPE when the child died before it could write a whole errno. -/
theorem C07_error_is_childs (c : Cfg) (idmapErr : Nat) (first second : Msg) (h : c.hasSyncFunc = false) (he : c.earlyReturn = false)
    (hn : second.n = sizeofChildError) :
    (syncWithChild c 0 idmapErr first false second).1 = .childError second.ce := by
  simp [syncWithChild, h, he, hn, handlePipeError, sizeofChildError, sizeofErrno]

/-! non-vacuity -/
example : (skeleton faultOpts).length = 21 := by decide +kernel
example : (syncWithChild ⟨false, true, false⟩ 0 0 ⟨8, ⟨0, 0, 0⟩⟩ true ⟨0, ⟨0, 0, 0⟩⟩) =
    (.otherError, [.closeP1, .callSyncFunc, .closeP0, .kill, .wait4]) := by decide

/-- **the failed launch reaps its own child** (regenerated fact): both `wait4` calls of
`handleChildFailed` name the pid of the child that was just killed — never "any child", which would collect
some other child of the caller and leave this one behind (the hand model `SyncParent` waits for `pid`). -/
theorem C07_gen_reaps_own_child :
    (Gen.C17.waitSites.filter (fun s => s.2.1 == "handleChildFailed")).map (·.2.2) = ["pid", "pid"] := by
  decide +kernel

end GoSandbox.Props.C07
