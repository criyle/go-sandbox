import GoSandbox.Kernel.Proc
namespace GoSandbox.Lemmas.Proc
open GoSandbox.Kernel.Proc List

theorem reap1_some {f f' : Forest} (h : reap1 f = some f') : f' <+ f ∧ f'.length + 1 = f.length := by
  induction f generalizing f' with
  | nil => cases h
  | cons p rest ih =>
    rw [reap1] at h
    split at h
    · cases h
      exact ⟨sublist_cons_self p rest, rfl⟩
    · obtain ⟨r, hr, rfl⟩ := Option.map_eq_some_iff.mp h
      exact ⟨(ih hr).1.cons_cons p, congrArg (· + 1) (ih hr).2⟩

end GoSandbox.Lemmas.Proc
