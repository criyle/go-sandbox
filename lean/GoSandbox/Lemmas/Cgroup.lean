/-
The directory table and handle table of the ownership model (Model/Cgroup.lean, part (d)):
what `owner` answers after a directory is added or removed, `setH`, and what Destroy's loop does.
-/
import GoSandbox.Model.Cgroup
namespace GoSandbox.Lemmas.Cgroup
open GoSandbox.Model.Cgroup

theorem owner_cons (fs : List (Dir × Option Hid)) (d d' : Dir) (o : Option Hid) :
    owner ((d, o) :: fs) d' = if d = d' then some o else owner fs d' := rfl

theorem owner_filter (fs : List (Dir × Option Hid)) (d d' : Dir) :
    owner (fs.filter (fun e => e.1 ≠ d)) d' = if d = d' then none else owner fs d' := by
  induction fs with
  | nil => exact (ite_self _).symm
  | cons e r ih =>
    obtain ⟨k, o⟩ := e
    rw [List.filter_cons, owner_cons]
    by_cases hk : k = d
    · subst hk    -- the entry for `d` goes
      rw [if_neg (by simp), ih]
      split <;> rfl
    · -- the entry stays; its key is not `d`, so the two tests commute
      rw [if_pos (by simpa using hk), owner_cons, ih]
      split
      · next h => rw [if_neg (h ▸ Ne.symm hk)]
      · rfl

theorem owner_cons_of_none {fs : List (Dir × Option Hid)} {d d' : Dir} {x o : Option Hid}
    (hd : owner fs d = none) (hd' : owner fs d' = some x) : owner ((d, o) :: fs) d' = some x := by
  rw [owner_cons, if_neg (ne_of_apply_ne (owner fs) (by simp [hd, hd'])), hd']

theorem owner_filter_of_ne {fs : List (Dir × Option Hid)} {d d' : Dir}
    (h : owner fs d ≠ owner fs d') : owner (fs.filter (fun e => e.1 ≠ d)) d' = owner fs d' := by
  rw [owner_filter, if_neg (ne_of_apply_ne _ h)]

theorem setH_same (hs : Hid → Handle) (h : Hid) (v : Handle) : setH hs h v h = v := if_pos rfl

theorem setH_other (hs : Hid → Handle) {h k : Hid} (v : Handle) (hne : k ≠ h) : setH hs h v k = hs k :=
  if_neg hne

/-- Destroy's loop over directories that, where they are there, were made by `h`: whatever it logs
was made by `h`, and it leaves the record of every directory not made by `h` as it is. -/
theorem destroyLoop_spec (par : Dir → Option Dir) (h : Hid) (ds : List Dir) (fs : List (Dir × Option Hid))
    (log : List (Hid × Dir × Option Hid))
    (hds : ∀ d ∈ ds, ∀ o, owner fs d = some o → o = some h) (hl : ∀ e ∈ log, e.2.2 = some e.1) :
    (∀ e ∈ (destroyLoop par h ds fs log).2, e.2.2 = some e.1) ∧
    (∀ d', owner fs d' ≠ some (some h) → owner (destroyLoop par h ds fs log).1 d' = owner fs d') := by
  fun_induction destroyLoop par h ds fs log with
  | case1 => exact ⟨hl, fun _ _ => rfl⟩
  | case2 d rest fs log o ho hc ih =>    -- rmdir fails: `d` has sub-groups
    exact ih (List.forall_mem_cons.mp hds).2 hl
  | case3 d rest fs log o ho hc ih =>    -- `d` is removed and logged
    obtain ⟨hd, hrest⟩ := List.forall_mem_cons.mp hds
    cases hd o ho
    obtain ⟨g1, g2⟩ := ih
      (fun x hx o' ho' => hrest x hx o' (by
        rw [owner_filter] at ho'
        split at ho'
        · cases ho'
        · exact ho'))
      (List.forall_mem_cons.mpr ⟨rfl, hl⟩)
    refine ⟨g1, fun d' hd' => ?_⟩
    have keep := owner_filter_of_ne (d := d) (d' := d') (by rw [ho]; exact hd'.symm)
    rw [← keep]
    exact g2 d' (by rwa [keep])
  | case4 d rest fs log ho ih =>    -- `d` is not there
    exact ih (List.forall_mem_cons.mp hds).2 hl

end GoSandbox.Lemmas.Cgroup
