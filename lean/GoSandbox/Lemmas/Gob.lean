import GoSandbox.Model.Gob
namespace GoSandbox.Lemmas.Gob
open GoSandbox.Model.Gob

/-- every frame in flight decodes, one after the other, starting from what the decoder knows -/
def deliverable (c : Cfg) : List Nat → List Frame → Bool
  | _, [] => true
  | known, f :: r => (decode c known f).2.isSome && deliverable c (decode c known f).1 r

/-- what the decoder knows after it has consumed everything in flight -/
def finalKnown (c : Cfg) : List Nat → List Frame → List Nat
  | known, [] => known
  | known, f :: r => finalKnown c (decode c known f).1 r

def pending (q : List Frame) : List (Kind × List Nat) := q.filterMap valOf

structure Inv (c : Cfg) (s : St) : Prop where
  deliv : deliverable c s.known s.q = true
  covers : ∀ d, d ∈ s.sent → d ∈ finalKnown c s.known s.q

variable {c : Cfg} {s : St} {k : Kind} {p : List Nat}

theorem step_send_fits (h : frameSize c (encode c s.sent k p).2 ≤ c.cap) :
    step c s (.send k p) =
      ({ s with sent := (encode c s.sent k p).1, q := s.q ++ [(encode c s.sent k p).2] }, .sent) := by
  simp [step, Nat.not_lt.mpr h]

theorem step_send_oversize (h : frameSize c (encode c s.sent k p).2 > c.cap) :
    step c s (.send k p) = ({ s with sent := (encode c s.sent k p).1 }, .rejected) := by
  simp [step, h]

theorem step_recv_nil (h : s.q = []) : step c s .recv = (s, .empty) := by
  simp [step, h]

theorem step_recv_cons {f : Frame} {r : List Frame} (h : s.q = f :: r) :
    step c s .recv = ({ s with q := r, known := (decode c s.known f).1 },
      match (decode c s.known f).2 with | some (k, p) => .got k p | none => .decodeError) := by
  simp only [step, h]
  rcases decode c s.known f with ⟨known', _ | ⟨k, p⟩⟩ <;> rfl

theorem decode_descs (c : Cfg) (ds : List Nat) (known : List Nat) (rest : Frame) :
    decode c known (ds.map Item.desc ++ rest) = decode c (ds.reverse ++ known) rest := by
  induction ds generalizing known with
  | nil => simp
  | cons d ds ih => simp [decode, ih]

theorem decode_some_valOf {known : List Nat} {f : Frame} {v : Kind × List Nat}
    (h : (decode c known f).2 = some v) : valOf f = some v := by
  induction f generalizing known with
  | nil => simp [decode] at h
  | cons it r ih =>
    cases it with
    | desc d => exact ih h
    | val k p =>
      simp only [decode] at h
      split at h <;> simp_all [valOf]

/-- a frame made by the encoder decodes to its value for a decoder that knows what the encoder had
emitted before, and the decoder learns the descriptors that were new -/
theorem decode_encode {sent known : List Nat} (k : Kind) (p : List Nat) (hsub : ∀ d, d ∈ sent → d ∈ known) :
    decode c known (encode c sent k p).2 = ((newDescs c sent k).reverse ++ known, some (k, p)) := by
  simp only [encode, decode_descs, decode]
  refine if_pos (List.all_eq_true.mpr fun d hd => ?_)
  rw [List.contains_iff_mem, List.mem_append, List.mem_reverse]
  by_cases hs : d ∈ sent
  · exact .inr (hsub d hs)
  · exact .inl (List.mem_filter.mpr ⟨hd, by simpa using hs⟩)

theorem valOf_encode (c : Cfg) (sent : List Nat) (k : Kind) (p : List Nat) : valOf (encode c sent k p).2 = some (k, p) :=
  decode_some_valOf (congrArg Prod.snd (decode_encode k p fun _ h => h))

theorem deliverable_append (c : Cfg) (known : List Nat) (q q' : List Frame) :
    deliverable c known (q ++ q') = (deliverable c known q && deliverable c (finalKnown c known q) q') := by
  induction q generalizing known with
  | nil => rfl
  | cons g r ih => simp [deliverable, finalKnown, ih, Bool.and_assoc]

theorem finalKnown_append (c : Cfg) (known : List Nat) (q q' : List Frame) :
    finalKnown c known (q ++ q') = finalKnown c (finalKnown c known q) q' := by
  induction q generalizing known with
  | nil => rfl
  | cons g r ih => exact ih _

theorem init_inv (c : Cfg) : Inv c init := ⟨rfl, nofun⟩

/-- one operation keeps the invariant (a rejected send must not have carried a descriptor), never
yields a decode error, and what has been received plus what is in flight is what was accepted -/
theorem step_inv (c : Cfg) (s : St) (op : Op) (h : Inv c s) (hfit : firstUsesFit c s [op] = true) :
    Inv c (step c s op).1 ∧ (step c s op).2 ≠ .decodeError ∧
    gots [(step c s op).2] ++ pending (step c s op).1.q = pending s.q ++ accepted c s [op] := by
  cases op with
  | send k p =>
    by_cases hsz : frameSize c (encode c s.sent k p).2 ≤ c.cap
    · have hde := decode_encode (c := c) k p h.covers
      simp only [accepted, step_send_fits hsz]
      refine ⟨⟨?_, fun d hd => ?_⟩, nofun, ?_⟩
      · simp [deliverable_append, deliverable, h.deliv, hde]
      · simp only [finalKnown_append, finalKnown, hde]
        simp only [encode, List.mem_append, List.mem_reverse] at hd ⊢
        exact hd.symm.imp_right (h.covers d)
      · simp [gots, pending, valOf_encode]
    · -- a rejected send carried no descriptor, so the encoder is where it was
      have hnd : newDescs c s.sent k = [] := by simpa [firstUsesFit, hsz] using hfit
      have hst : step c s (.send k p) = (s, .rejected) := by
        simp [step_send_oversize (Nat.lt_of_not_le hsz), encode, hnd]
      simp only [accepted, hst]
      exact ⟨h, nofun, by simp [gots]⟩
  | recv =>
    cases hq : s.q with
    | nil =>
      simp only [accepted, step_recv_nil hq]
      exact ⟨h, nofun, by simp [gots, hq]⟩
    | cons f r =>
      have hd := h.deliv
      have hc := h.covers
      simp only [hq, deliverable, finalKnown, Bool.and_eq_true] at hd hc
      obtain ⟨⟨k, p⟩, hv⟩ := Option.isSome_iff_exists.mp hd.1
      simp only [accepted, step_recv_cons hq, hv]
      exact ⟨⟨hd.2, hc⟩, nofun, by simp [gots, pending, decode_some_valOf hv]⟩

theorem firstUsesFit_cons (c : Cfg) (s : St) (op : Op) (rest : List Op) :
    firstUsesFit c s (op :: rest) = (firstUsesFit c s [op] && firstUsesFit c (step c s op).1 rest) := by
  cases op <;> simp [firstUsesFit]

theorem accepted_cons (c : Cfg) (s : St) (op : Op) (rest : List Op) :
    accepted c s (op :: rest) = accepted c s [op] ++ accepted c (step c s op).1 rest := by
  cases op with
  | recv => simp [accepted]
  | send k p =>
    simp only [accepted]
    split <;> simp_all

theorem gots_cons (o : Out) (os : List Out) : gots (o :: os) = gots [o] ++ gots os := by
  cases o <;> rfl

/-- over every history whose first uses fit: the invariant is kept, no receive ever fails to decode,
and received ++ in flight = accepted (same values, same order) -/
theorem run_inv (c : Cfg) (ops : List Op) : ∀ (s : St), Inv c s → firstUsesFit c s ops = true →
    Inv c (run c s ops).1 ∧ (∀ o ∈ (run c s ops).2, o ≠ .decodeError) ∧
    gots (run c s ops).2 ++ pending (run c s ops).1.q = pending s.q ++ accepted c s ops := by
  induction ops with
  | nil => intro s h _; exact ⟨h, nofun, by simp [run, gots, accepted]⟩
  | cons op rest ih =>
    intro s h hf
    rw [firstUsesFit_cons, Bool.and_eq_true] at hf
    obtain ⟨h1, h2, h3⟩ := step_inv c s op h hf.1
    obtain ⟨i1, i2, i3⟩ := ih _ h1 hf.2
    simp only [run]
    refine ⟨i1, List.forall_mem_cons.mpr ⟨h2, i2⟩, ?_⟩
    rw [gots_cons, List.append_assoc, i3, ← List.append_assoc, h3, List.append_assoc, ← accepted_cons]

end GoSandbox.Lemmas.Gob
