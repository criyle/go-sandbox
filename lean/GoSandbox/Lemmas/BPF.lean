import GoSandbox.Kernel.BPF
import GoSandbox.Spec.SeccompPolicy
namespace GoSandbox.Lemmas.BPF
open GoSandbox.Kernel.BPF GoSandbox.Spec.SeccompPolicy

/-! `dedup` and `reps` are part of the validator: Model/SeccompValidate.lean imports this file for them
(`cutConsts`, `validate`) and runs the program on every pair from `reps (dedup (its constants ++ the policy's))`. -/

def dedup : List Nat → List Nat
  | [] => []
  | x :: xs => if x ∈ xs then dedup xs else x :: dedup xs

theorem mem_dedup (l : List Nat) (x : Nat) : x ∈ dedup l ↔ x ∈ l := by
  induction l with
  | nil => rfl
  | cons y ys ih =>
    simp only [dedup]
    split
    next h => simpa [ih] using fun e => e ▸ h
    next => simp [ih]

def reps (K : List Nat) : List Nat := 0 :: (K ++ K.map (· + 1))

/-- `a` and `b` are indistinguishable by comparisons against the constants in `K` -/
def Sim (K : List Nat) (a b : Nat) : Prop :=
  ∀ k ∈ K, (a = k ↔ b = k) ∧ (a > k ↔ b > k) ∧ (a ≥ k ↔ b ≥ k)

def SimD (K : List Nat) (d d' : Data) : Prop := Sim K d.nr d'.nr ∧ Sim K d.arch d'.arch

theorem sim_refl (K : List Nat) (a : Nat) : Sim K a a := fun _ _ => ⟨Iff.rfl, Iff.rfl, Iff.rfl⟩

theorem sim_mono (K K' : List Nat) (a b : Nat) (h : ∀ k ∈ K', k ∈ K) (hs : Sim K a b) : Sim K' a b :=
  fun k hk => hs k (h k hk)

theorem Sim.mem_iff {K : List Nat} {a b : Nat} (hs : Sim K a b) {l : List Nat} (hl : l ⊆ K) : a ∈ l ↔ b ∈ l :=
  ⟨fun h => (hs a (hl h)).1.mp rfl ▸ h, fun h => (hs b (hl h)).1.mpr rfl ▸ h⟩

theorem wf_of_subset {l l' : List Insn} (hl : l ⊆ l') (h : wf l' = true) : wf l = true :=
  List.all_eq_true.mpr fun i hi => List.all_eq_true.mp h i (hl hi)

theorem mem_consts {prog : List Insn} {k : Nat} :
    k ∈ consts prog ↔ ∃ i ∈ prog, (i.code = opJeq ∨ i.code = opJgt ∨ i.code = opJge) ∧ i.k = k := by
  simp [consts, and_assoc, or_assoc]

theorem consts_subset {l l' : List Insn} (hl : l ⊆ l') : consts l ⊆ consts l' :=
  List.map_subset _ (List.filter_subset _ hl)

theorem load_sim {K : List Nat} {d d' : Data} (hd : SimD K d d') {k : Nat} (hk : k = 0 ∨ k = 4) :
    Sim K (load d k) (load d' k) := by
  rcases hk with rfl | rfl
  · exact hd.1
  · exact hd.2

theorem wfInsn_iff {i : Insn} : wfInsn i = true ↔ (i.code = opLdAbs ∧ (i.k = 0 ∨ i.k = 4)) ∨ i.code = opRet ∨
    i.code = opJa ∨ i.code = opJeq ∨ i.code = opJgt ∨ i.code = opJge := by
  simp [wfInsn, or_assoc]

theorem run_sim (K : List Nat) {d d' : Data} (hd : SimD K d d') : ∀ (fuel : Nat) (prog : List Insn) (a a' : Nat),
    wf prog = true → consts prog ⊆ K → Sim K a a' → run fuel prog a d = run fuel prog a' d' := by
  intro fuel
  induction fuel with
  | zero => intros; rfl
  | succ fuel ih =>
    intro prog a a' hwf hc hs
    cases prog with
    | nil => rfl
    | cons i rest =>
      have hik : i.code = opJeq ∨ i.code = opJgt ∨ i.code = opJge → i.k ∈ K :=
        fun h => hc (mem_consts.mpr ⟨i, List.mem_cons_self, h, rfl⟩)
      -- wherever the instruction goes on, it goes on in a tail of `rest`
      have hrec : ∀ n b b', Sim K b b' → run fuel (rest.drop n) b d = run fuel (rest.drop n) b' d' := by
        intro n b b' hb
        have hsub : rest.drop n ⊆ i :: rest := List.subset_cons_of_subset _ (List.drop_subset n rest)
        exact ih _ b b' (wf_of_subset hsub hwf) ((consts_subset hsub).trans hc) hb
      -- a conditional jump on a condition that `Sim` preserves
      have hjmp : ∀ (p q : Prop) [Decidable p] [Decidable q], (p ↔ q) →
          run fuel (rest.drop (if p then i.jt else i.jf)) a d = run fuel (rest.drop (if q then i.jt else i.jf)) a' d' :=
        fun p q _ _ h => by simp only [h]; exact hrec _ a a' hs
      -- the opcode is one of six; `run`'s chain of tests evaluated at it (which settles `opRet`)
      rcases wfInsn_iff.mp (List.all_eq_true.mp hwf i List.mem_cons_self) with ⟨h, hk⟩ | h | h | h | h | h <;>
        simp only [run, h, opLdAbs, opRet, opJa, opJeq, opJgt, opJge, Nat.reduceEqDiff, ↓reduceIte]
      · exact hrec 0 _ _ (load_sim hd hk)  -- opLdAbs
      · exact hrec _ a a' hs  -- opJa
      · exact hjmp _ _ (hs _ (hik (.inl h))).1  -- opJeq
      · exact hjmp _ _ (hs _ (hik (.inr (.inl h)))).2.1  -- opJgt
      · exact hjmp _ _ (hs _ (hik (.inr (.inr h)))).2.2  -- opJge

theorem expected_sim {p : Policy} {K : List Nat} {d d' : Data} (hK : specConsts p ⊆ K)
    (hd : SimD K d d') : expected p d = expected p d' := by
  have ha : d.arch = p.nativeArch ↔ d'.arch = p.nativeArch := (hd.2 _ (hK (by simp [specConsts]))).1
  have hx : d.nr ≥ p.x32Bit ↔ d'.nr ≥ p.x32Bit := (hd.1 _ (hK (by simp [specConsts]))).2.2
  have hal := hd.1.mem_iff (l := p.allow) fun _ hk => hK (by simp [specConsts, hk])
  have htr := hd.1.mem_iff (l := p.trace) fun _ hk => hK (by simp [specConsts, hk])
  simp only [expected, ne_eq, ha, hx, hal, htr]

/-- Every `v` has a representative among `reps K`: `v` itself if it is a constant, else the successor
of the largest constant below it, or 0. By induction over the constants `K'` taken into account so far. -/
theorem exists_rep (K : List Nat) (v : Nat) : ∃ r ∈ reps K, Sim K v r := by
  suffices h : ∀ K', K' ⊆ K → ∃ r ∈ reps K, r ≤ v ∧ Sim K' v r from
    let ⟨r, hr, _, hs⟩ := h K (List.Subset.refl K); ⟨r, hr, hs⟩
  intro K'
  induction K' with
  | nil => exact fun _ => ⟨0, by simp [reps], Nat.zero_le _, fun _ h => nomatch h⟩
  | cons k K' ih =>
    intro hK
    obtain ⟨hk, hK'⟩ := List.cons_subset.mp hK
    obtain ⟨r, hr, hle, hs⟩ := ih hK'
    -- the values `Sim K'` to `v` form an interval: anything from `r` to `v` that also agrees with `v` on `k` will do
    have hcons : ∀ r', r ≤ r' → r' ≤ v → (v = k ↔ r' = k) ∧ (v > k ↔ r' > k) ∧ (v ≥ k ↔ r' ≥ k) →
        Sim (k :: K') v r' := by
      intro r' h1 h2 h3 j hj
      rcases List.mem_cons.mp hj with rfl | hj
      · exact h3
      · have := hs j hj; omega
    by_cases hv : v = k
    · exact ⟨v, by simp [reps, hv, hk], Nat.le_refl _, hcons v hle (Nat.le_refl _) (by omega)⟩
    by_cases hsep : r ≤ k ∧ k < v
    · exact ⟨k + 1, by simp [reps, hk], by omega, hcons _ (by omega) (by omega) (by omega)⟩
    · exact ⟨r, hr, hle, hcons r (Nat.le_refl _) hle (by omega)⟩

/-- A well-formed program that agrees with the policy on every pair of representatives, for a `K` that
holds the constants of both, agrees with it on every `seccomp_data`. -/
theorem exec_eq_expected_of_reps {prog : List Insn} {p : Policy} {K : List Nat} {o : Nat → Nat} (hwf : wf prog = true)
    (hc : consts prog ⊆ K) (hp : specConsts p ⊆ K)
    (h : ∀ nr ∈ reps K, ∀ arch ∈ reps K, exec prog ⟨nr, arch, o⟩ = some (expected p ⟨nr, arch, o⟩)) (d : Data) :
    exec prog d = some (expected p d) := by
  obtain ⟨nr, hnr, hsn⟩ := exists_rep K d.nr
  obtain ⟨arch, har, hsa⟩ := exists_rep K d.arch
  have hd : SimD K d ⟨nr, arch, o⟩ := ⟨hsn, hsa⟩
  rw [exec, run_sim K hd _ prog 0 0 hwf hc (sim_refl K 0), expected_sim hp hd]
  exact h nr hnr arch har

end GoSandbox.Lemmas.BPF
