/-
What `stepOp` and `runOps` of Model/Verdict.lean compute: a call made after the run ended changes
nothing; while the run is on it executes, ends the run, or is banned, according to the filter's
answer, whether the process is traced, and the handler's decision.
-/
import GoSandbox.Model.Verdict
namespace GoSandbox.Lemmas.Verdict
open GoSandbox.Model.Verdict

variable {opts : List Kind} {decide : Nat → Act} {s : RunSt} {op : Op}

theorem stepOp_ended (h : s.status = .disallowed) : stepOp opts decide s op = s := if_pos h

theorem stepOp_exec (hs : s.status = .normal)
    (h : op.fres = .allow ∨ op.fres = .trace ∧ tracedProc opts op.lineage = true ∧ decide op.id = .allow) :
    stepOp opts decide s op = { s with effects := s.effects ++ [op.id] } := by
  rcases h with hf | ⟨hf, ht, hd⟩ <;> simp [stepOp, *]

/-- whether or not the run was still on -/
theorem stepOp_end
    (h : op.fres = .kill ∨ op.fres = .trace ∧ tracedProc opts op.lineage = true ∧ decide op.id = .kill) :
    stepOp opts decide s op = { s with status := .disallowed } := by
  cases hs : s.status with
  | disallowed => rw [stepOp_ended hs, ← hs]
  | normal => rcases h with hf | ⟨hf, ht, hd⟩ <;> simp [stepOp, *]

theorem stepOp_ban (hs : s.status = .normal) (hf : op.fres = .trace) (ht : tracedProc opts op.lineage = true)
    (hd : decide op.id = .ban) :
    stepOp opts decide s op = { s with rets := s.rets ++ [(op.id, -(banRet : Int))] } := by
  simp [stepOp, hs, hf, ht, hd]

/-- the only way a step adds to the calls that executed -/
theorem stepOp_effects (opts : List Kind) (decide : Nat → Act) (s : RunSt) (op : Op) :
    (stepOp opts decide s op).effects = s.effects ∨
    (stepOp opts decide s op).effects = s.effects ++ [op.id] ∧
      (op.fres = .allow ∨ op.fres = .trace ∧ tracedProc opts op.lineage = true ∧ decide op.id = .allow) := by
  fun_cases stepOp opts decide s op <;> simp [*]

theorem runOps_append (pre post : List Op) :
    runOps opts decide (pre ++ post) s = runOps opts decide post (runOps opts decide pre s) :=
  List.foldl_append

theorem runOps_ended (ops : List Op) (h : s.status = .disallowed) : runOps opts decide ops s = s :=
  List.foldlRecOn ops _ (motive := (· = s)) rfl fun _ ht _ _ => by rw [ht, stepOp_ended h]

end GoSandbox.Lemmas.Verdict
