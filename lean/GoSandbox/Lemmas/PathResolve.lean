/-
Lemmas about Model/PathResolve.lean: the equations of one iteration of `resolve` (one per
constructor of `Walk`, and one for the cap), that more fuel never changes an answer, and that
`resolve` finds every `Walk`.
-/
import GoSandbox.Model.PathResolve
namespace GoSandbox.Lemmas.PathResolve
open GoSandbox.Model.PathResolve

variable {fs : FS} {n m : Nat} {cur r : CPath} {c : Comp} {rest todo : List Comp} {b : Nat}
  {a : Bool} {t : List Comp} {x y : CPath × Bool}

theorem isLink_eq_false {o : Option Node} : isLink o = false ↔ ∀ a t, o ≠ some (.link a t) := by
  unfold isLink; split <;> simp_all

/-! ### one iteration of `resolve`

The hypotheses have the form in which `fun_induction resolve` supplies them.  Its cases, in the
order of the definition: 1 no fuel, 2 `[]`, 3 `""` or `"."`, 4 `".."`, 5 a link with no budget left
(the cap), 6 a link, 7 anything else. -/

theorem resolve_skip (hc : c = "" ∨ c = ".") :
    resolve fs (n + 1) cur (c :: rest) b = resolve fs n cur rest b := by
  rw [resolve, if_pos hc]

theorem resolve_up : resolve fs (n + 1) cur (".." :: rest) b = resolve fs n (parent cur) rest b := by
  simp [resolve]

theorem resolve_plain (h1 : ¬(c = "" ∨ c = ".")) (h2 : c ≠ "..") (hl : isLink (fs.node (cur ++ [c])) = false) :
    resolve fs (n + 1) cur (c :: rest) b = resolve fs n (cur ++ [c]) rest b := by
  rw [resolve, if_neg h1, if_neg h2]
  split
  · simp_all [isLink]
  · rfl

theorem resolve_link (h1 : ¬(c = "" ∨ c = ".")) (h2 : c ≠ "..") (hn : fs.node (cur ++ [c]) = some (.link a t)) :
    resolve fs (n + 1) cur (c :: rest) (b + 1) = resolve fs n (if a then [] else cur) (t ++ rest) b := by
  rw [resolve, if_neg h1, if_neg h2, hn]

theorem resolve_cap (h1 : ¬(c = "" ∨ c = ".")) (h2 : c ≠ "..") (hn : fs.node (cur ++ [c]) = some (.link a t)) :
    resolve fs (n + 1) cur (c :: rest) 0 = (resolve fs n (cur ++ [c]) rest 0).map fun x => (x.1, true) := by
  rw [resolve, if_neg h1, if_neg h2, hn]

/-! ### fuel -/

theorem resolve_succ : ∀ x, resolve fs n cur todo b = some x → resolve fs (n + 1) cur todo b = some x := by
  fun_induction resolve fs n cur todo b with
  | case1 => simp
  | case2 => exact fun _ h => h
  | case3 _ _ _ _ _ hc ih => rw [resolve_skip hc]; exact ih
  | case4 _ _ _ _ _ ih => rw [resolve_up]; exact ih
  | case5 _ _ _ _ h1 h2 _ _ hn ih =>
    rw [resolve_cap h1 h2 hn]
    intro x h
    obtain ⟨y, hy, rfl⟩ := Option.map_eq_some_iff.mp h
    rw [ih y hy]; rfl
  | case6 _ _ _ _ h1 h2 _ _ hn _ ih => rw [resolve_link h1 h2 hn]; exact ih
  | case7 _ _ _ _ _ h1 h2 hl ih => rw [resolve_plain h1 h2 (isLink_eq_false.mpr hl)]; exact ih

/-- more fuel never changes an answer -/
theorem resolve_mono (hm : n ≤ m) (h : resolve fs n cur todo b = some x) : resolve fs m cur todo b = some x := by
  induction hm with
  | refl => exact h
  | step _ ih => exact resolve_succ _ ih

/-- the answer does not depend on the fuel -/
theorem resolve_unique (h : resolve fs n cur todo b = some x) (h' : resolve fs m cur todo b = some y) : x = y :=
  Option.some.inj ((resolve_mono (Nat.le_max_left n m) h).symm.trans (resolve_mono (Nat.le_max_right n m) h'))

/-! ### completeness -/

theorem resolve_of_walk (h : Walk fs cur todo b r) : ∃ n, resolve fs n cur todo b = some (r, false) := by
  induction h with
  | done => exact ⟨1, rfl⟩
  | skip _ _ _ _ _ hc _ ih => exact ih.imp' (· + 1) fun _ => (resolve_skip hc).trans
  | up _ _ _ _ _ ih => exact ih.imp' (· + 1) fun _ => resolve_up.trans
  | plain _ _ _ _ _ h1 h2 h3 hl _ ih =>
    exact ih.imp' (· + 1) fun _ => (resolve_plain (not_or.mpr ⟨h1, h2⟩) h3 hl).trans
  | link _ _ _ _ _ _ _ h1 h2 h3 hn _ ih =>
    exact ih.imp' (· + 1) fun _ => (resolve_link (not_or.mpr ⟨h1, h2⟩) h3 hn).trans

end GoSandbox.Lemmas.PathResolve
