import GoSandbox.Model.FileSet
import GoSandbox.Spec.Covers
namespace GoSandbox.Lemmas.FileSet
open GoSandbox.Model.FileSet GoSandbox.Spec

/-! ### `dirname` -/

theorem dirname_split (n : Str) (h : '/' ∈ n) :
    ∃ r, n = dirname n ++ '/' :: r ∧ '/' ∉ r := by
  induction n with
  | nil => simp at h
  | cons c cs ih =>
    simp only [dirname]
    by_cases hs : '/' ∈ cs
    · obtain ⟨r, hr, hn⟩ := ih hs
      exact ⟨r, by simp only [hs, if_true, List.cons_append, ← hr], hn⟩
    · obtain rfl : '/' = c := by simpa [hs] using h
      exact ⟨cs, by simp only [hs, if_false, List.nil_append], hs⟩

theorem dirname_noslash (n : Str) (h : '/' ∉ n) : dirname n = [] := by
  cases n with
  | nil => rfl
  | cons c cs => simp [dirname, List.not_mem_of_not_mem_cons h]

theorem dirname_length_lt {n : Str} (hne : n ≠ []) : (dirname n).length < n.length := by
  by_cases h : '/' ∈ n
  · obtain ⟨r, hr, _⟩ := dirname_split n h
    have := congrArg List.length hr
    simp only [List.length_append, List.length_cons] at this
    omega
  · simpa [dirname_noslash n h] using List.length_pos_iff.mpr hne

theorem absOrEmpty_dirname {n : Str} (h : AbsOrEmpty n) : AbsOrEmpty (dirname n) := by
  rcases h with rfl | ⟨r, rfl⟩
  · exact Or.inl rfl
  · simp only [dirname]
    split
    · exact Or.inr ⟨_, rfl⟩
    · exact Or.inl rfl

/-! ### `IsInSetSmart` admits only covered paths -/

theorem inSetSmart_iff (s : FileSet) (p : Str) :
    inSetSmart s p = true ↔ p ∈ s.set ∨ (p = ['/'] ∧ s.systemRoot = true) ∨
      match loop s.set p.length 0 p with
      | none => True
      | some level => (level = 1 ∧ ['/', '*'] ∈ s.set) ∨ ['/'] ∈ s.set := by
  unfold inSetSmart
  cases loop s.set p.length 0 p <;> simp

/-- Loop invariant: on level 0 `name` is `p`; later `name/` is a prefix of `p`, and on level 1 what
follows it is a single component. -/
def Inv (p : Str) (level : Nat) (name : Str) : Prop :=
  (level = 0 ∧ name = p) ∨
  (1 ≤ level ∧ ∃ rest, p = name ++ '/' :: rest ∧ (level = 1 → '/' ∉ rest))

theorem Inv.covers_dir {p name : Str} {level : Nat} (h : Inv p level name) :
    covers (name ++ ['/']) p := by
  refine Or.inr (Or.inl ⟨name, rfl, ?_⟩)
  rcases h with ⟨_, rfl⟩ | ⟨_, rest, rfl, _⟩
  · exact Or.inl rfl
  · exact Or.inr ⟨rest, by simp⟩

theorem Inv.covers_children {p name : Str} (h : Inv p 1 name) :
    covers (name ++ ['/', '*']) p := by
  rcases h with ⟨h0, _⟩ | ⟨_, rest, rfl, hno⟩
  · cases h0
  · exact Or.inr (Or.inr ⟨name, rest, rfl, by simp, hno rfl⟩)

theorem Inv.step {p name : Str} {level : Nat} (hslash : '/' ∈ name)
    (h : Inv p level name) : Inv p (level + 1) (dirname name) := by
  obtain ⟨r, hr, hnr⟩ := dirname_split name hslash
  refine Or.inr ⟨by omega, ?_⟩
  rcases h with ⟨_, rfl⟩ | ⟨h1, rest, rfl, _⟩
  · exact ⟨r, hr, fun _ => hnr⟩
  · exact ⟨r ++ '/' :: rest, by rw [← List.cons_append, ← List.append_assoc, ← hr], by omega⟩

/-- The walk stays on absolute-or-empty names, so a non-empty name contains a slash and `Inv.step`
applies; a relative name reaches "" one level early (`C18_relative_witness`). -/
theorem loop_sound {S : List Str} {p : Str} (fuel level : Nat) (name : Str)
    (hl : name.length ≤ fuel) (habs : AbsOrEmpty name) (hinv : Inv p level name) :
    match loop S fuel level name with
    | none => ∃ e ∈ S, covers e p
    | some l => Inv p l [] := by
  fun_induction loop S fuel level name with
  | case1 level name =>    -- out of fuel
    obtain rfl : name = [] := List.length_eq_zero_iff.mp (Nat.le_zero.mp hl)
    exact hinv
  | case2 fuel level => exact hinv    -- the name is ""
  | case3 fuel level name _ h1 =>    -- the children entry `name/*`, on level 1
    exact ⟨_, h1.2, (h1.1 ▸ hinv).covers_children⟩
  | case4 fuel level name _ _ h2 =>    -- the directory entry `name/`
    exact ⟨_, h2, hinv.covers_dir⟩
  | case5 fuel level name hne _ _ ih =>    -- on to `dirname name`
    obtain ⟨r, rfl⟩ := habs.resolve_left hne
    exact ih (by have := dirname_length_lt hne; omega) (absOrEmpty_dirname habs)
      (hinv.step List.mem_cons_self)

/-! ### the class cascade of `Handler.Check*` -/

theorem check_eq (fs : FileSets) (rp : Str → Str) (c : Cls) (p : Str) :
    check fs rp c p =
      if (chain fs c).any (fun s => inSetSmart s p || inSetSmart s (rp p)) then .allow
      else onDgs fs rp p := by
  cases c <;> simp [check, chain, isWritable, isReadable, isStatable, Bool.or_assoc]

theorem onDgs_ne_allow (fs : FileSets) (rp : Str → Str) (p : Str) : onDgs fs rp p ≠ .allow := by
  unfold onDgs; split <;> simp

/-! ### `SyscallCounter` -/

theorem get?_set (c : Counter) (k k' : Str) (v : Int) :
    (c.set k v).get? k' = if k = k' then some v else c.get? k' := by
  induction c with
  | nil => rfl
  | cons hd tl ih =>
    obtain ⟨k0, v0⟩ := hd
    rw [Counter.set]
    split
    · next h0 =>    -- the head is overwritten
      subst h0
      rw [Counter.get?, Counter.get?]
      split <;> rfl
    · next h0 =>    -- the head stays; its key is not `k`, so the two tests commute
      rw [Counter.get?, Counter.get?, ih]
      split
      · next h => rw [if_neg (h ▸ Ne.symm h0)]
      · rfl

theorem get?_set_self (c : Counter) (k : Str) (v : Int) : (c.set k v).get? k = some v := by
  rw [get?_set, if_pos rfl]

theorem checkSyscall_none {c : Counter} {x : Str} (h : c.get? x = none) :
    checkSyscall c x = (c, .ban) := by
  simp [checkSyscall, counterCheck, h]

theorem checkSyscall_some {c : Counter} {x : Str} {n : Int} (h : c.get? x = some n) :
    checkSyscall c x = (c.set x (n - 1), if n ≤ 1 then .kill else .allow) := by
  simp only [checkSyscall, counterCheck, h]
  by_cases h1 : n ≤ 1 <;> simp [h1]

theorem checkSyscall_get?_of_ne (c : Counter) {x name : Str} (h : x ≠ name) :
    (checkSyscall c x).1.get? name = c.get? name := by
  cases hc : c.get? x with
  | none => rw [checkSyscall_none hc]
  | some n => rw [checkSyscall_some hc, get?_set, if_neg h]

end GoSandbox.Lemmas.FileSet
