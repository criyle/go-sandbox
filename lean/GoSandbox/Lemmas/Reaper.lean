import GoSandbox.Model.Reaper
namespace GoSandbox.Lemmas.Reaper
open GoSandbox.Model.Reaper

/-- the run from `s` that takes successor number `i` of each state in turn -/
def follow (g : Cfg) : St → List Nat → Option St
  | s, [] => some s
  | s, i :: is => (steps g s)[i]?.bind (follow g · is)

theorem insertNew_spec (seen xs : List St) :
    (∀ x ∈ seen, x ∈ (insertNew seen xs).1) ∧ (∀ x ∈ xs, x ∈ (insertNew seen xs).1) ∧
    ∀ x ∈ (insertNew seen xs).1, x ∈ seen ∨ x ∈ (insertNew seen xs).2 := by
  unfold insertNew
  suffices ∀ acc : List St × List St, (∀ x ∈ acc.1, x ∈ seen ∨ x ∈ acc.2) →
      let r := xs.foldl (fun acc x => if acc.1.contains x then acc else (x :: acc.1, x :: acc.2)) acc
      (∀ x ∈ acc.1, x ∈ r.1) ∧ (∀ x ∈ xs, x ∈ r.1) ∧ ∀ x ∈ r.1, x ∈ seen ∨ x ∈ r.2 from
    this (seen, []) fun _ => .inl
  induction xs with
  | nil => exact fun acc h => ⟨fun _ => id, by simp, h⟩
  | cons y ys ih =>
    intro acc h
    simp only [List.foldl_cons]
    split
    next hy =>
      obtain ⟨h1, h2, h3⟩ := ih acc h
      exact ⟨h1, List.forall_mem_cons.mpr ⟨h1 y (by simpa using hy), h2⟩, h3⟩
    next =>
      obtain ⟨h1, h2, h3⟩ := ih (y :: acc.1, y :: acc.2) (by simpa using fun x hx => (h x hx).imp_right .inr)
      exact ⟨fun x hx => h1 x (.tail _ hx), List.forall_mem_cons.mpr ⟨h1 y (.head _), h2⟩, h3⟩

theorem explore_nil (g : Cfg) (fuel : Nat) (seen : List St) : explore g fuel seen [] = seen := by
  cases fuel <;> rfl

/-- the invariant of the search: a state that has been seen is still on the frontier, or all its successors
have been seen -/
def Inv (g : Cfg) (seen frontier : List St) : Prop :=
  ∀ s ∈ seen, s ∈ frontier ∨ ∀ t ∈ steps g s, t ∈ seen

/-- one round of the search keeps the invariant, keeps what was seen and takes in all its successors -/
theorem explore_succ (g : Cfg) (fuel : Nat) {seen frontier : List St} (h : Inv g seen frontier) :
    ∃ seen' new, explore g (fuel + 1) seen frontier = explore g fuel seen' new ∧ Inv g seen' new ∧
      ∀ s ∈ seen, s ∈ seen' ∧ ∀ t ∈ steps g s, t ∈ seen' := by
  obtain ⟨h1, h2, h3⟩ := insertNew_spec seen (frontier.flatMap fun s => (steps g s).filter (· != s))
  generalize hr : insertNew seen _ = r at h1 h2 h3
  have old : ∀ s ∈ seen, s ∈ r.1 ∧ ∀ t ∈ steps g s, t ∈ r.1 := by
    refine fun s hs => ⟨h1 s hs, fun t ht => ?_⟩
    -- `explore` leaves out the step from a state to itself: that successor has been seen
    by_cases hts : t = s
    · exact hts ▸ h1 s hs
    · exact (h s hs).elim (fun hf => h2 t (List.mem_flatMap.mpr ⟨s, hf, by simpa [ht] using hts⟩))
        fun hsucc => h1 t (hsucc t ht)
  refine ⟨r.1, r.2, ?_, fun s hs => (h3 s hs).symm.imp_right fun hs => (old s hs).2, old⟩
  by_cases hf : frontier = []
  · subst hf hr; simp [explore, insertNew, explore_nil]
  · simp [explore, hf, hr]

/-- breadth-first search misses nothing within its fuel -/
theorem follow_mem_explore {g : Cfg} {fuel : Nat} {seen frontier : List St} {is : List Nat} {s t : St}
    (h : Inv g seen frontier) (hs : s ∈ seen) (hft : follow g s is = some t) (hl : is.length ≤ fuel) :
    t ∈ explore g fuel seen frontier := by
  induction fuel generalizing seen frontier is s with
  | zero =>
    cases List.length_eq_zero_iff.mp (Nat.le_zero.mp hl)
    cases hft
    exact hs
  | succ fuel ih =>
    obtain ⟨seen', new, e, h', h1⟩ := explore_succ g fuel h
    rw [e]
    cases is with
    | nil => cases hft; exact ih (is := []) h' (h1 _ hs).1 rfl (Nat.zero_le _)
    | cons i is =>
      obtain ⟨s1, hi, hft⟩ := Option.bind_eq_some_iff.mp hft
      exact ih h' ((h1 s hs).2 s1 (List.mem_of_getElem? hi)) hft (Nat.le_of_succ_le_succ hl)

theorem any_reachableFrom {g : Cfg} {s : St} {p : St → Bool} (is : List Nat) (hl : is.length ≤ 200)
    (h : (follow g s is).any p = true) : (reachableFrom g s).any p = true := by
  obtain ⟨t, ht, hp⟩ := (Option.any_eq_true ..).mp h
  exact List.any_eq_true.mpr ⟨t, follow_mem_explore (by simp [Inv]) (by simp) ht hl, hp⟩

end GoSandbox.Lemmas.Reaper
