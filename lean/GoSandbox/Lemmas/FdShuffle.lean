/-
Lemmas about the hand model of the descriptor shuffle (Model/FdShuffle.lean), up to `shuffle_spec`, of which
`C06_shuffle_exact` is a corollary.  Everything before pass 2 only copies descriptors, close-on-exec, to scratch
slots: `Carries` is what such steps preserve, and the prelude and pass 1 are `Carries` steps.  Pass 1 leaves every
source at or above its target index, so that pass 2, going upwards, reads each source before it writes there.
-/
import GoSandbox.Model.FdShuffle
namespace GoSandbox.Lemmas.FdShuffle
open GoSandbox.Model.FdShuffle

/-! ### the table operations -/

theorem fileAt_congr {t t' : Table} {j : Nat} (h : t j = t' j) : fileAt t j = fileAt t' j := by
  simp only [fileAt, h]

theorem atExec_congr {t t' : Table} {j : Nat} (h : t j = t' j) : atExec t j = atExec t' j := by
  simp only [atExec, h]

theorem atExec_eq_none {t : Table} {k : Nat} : atExec t k = none ↔ ∀ e, t k = some e → e.2 = true := by
  unfold atExec
  match t k with
  | none => simp
  | some (f, true) => simp
  | some (f, false) => simp

theorem atExec_of_eq_map {t : Table} {k : Nat} {o : Option (Nat × Bool)} (h : t k = o.map (fun e => (e.1, false))) :
    atExec t k = o.map (·.1) := by
  unfold atExec
  rw [h]
  cases o <;> rfl

theorem dup3_ne {t : Table} {old new j : Nat} {cx : Bool} (h : j ≠ new) : dup3 t old new cx j = t j :=
  if_neg h

theorem fileAt_dup3 (t : Table) (old new : Nat) (cx : Bool) : fileAt (dup3 t old new cx) new = fileAt t old := by
  simp only [fileAt, dup3, if_pos]
  cases t old <;> rfl

theorem atExec_dup3_true {t : Table} {j : Nat} (old new : Nat) (h : atExec t j = none) :
    atExec (dup3 t old new true) j = none := by
  by_cases hj : j = new
  · simp only [atExec, dup3, if_pos hj]
    cases t old <;> rfl
  · rwa [atExec_congr (dup3_ne hj)]

/-! ### pass 2 -/

/-- One step of pass 2, whatever the entry: slot `i` is closed, or gets the entry's source with
close-on-exec cleared (`clearCx t i` is `dup3 t i i false`). -/
theorem pass2_cons (i : Nat) (a : Option Nat) (r : List (Option Nat)) (t : Table) :
    pass2 i (a :: r) t =
      pass2 (i + 1) r (fun j => if j = i then (a.bind t).map (fun e => (e.1, false)) else t j) := by
  cases a with
  | none => rfl
  | some f =>
    rw [pass2]
    split
    · subst f; rfl
    · rfl

theorem pass2_spec : ∀ (locs : List (Option Nat)) (i : Nat) (t : Table),
    (∀ x ∈ locs.zipIdx i, ∀ g ∈ x.1, x.2 ≤ g) →
    (∀ x ∈ locs.zipIdx i, pass2 i locs t x.2 = (x.1.bind t).map (fun e => (e.1, false))) ∧
    (∀ j, j < i ∨ i + locs.length ≤ j → pass2 i locs t j = t j)
  | [], _, _, _ => ⟨nofun, fun _ _ => rfl⟩
  | a :: r, i, t, h => by
    rw [List.zipIdx_cons, List.forall_mem_cons] at h ⊢
    rw [pass2_cons, List.length_cons]
    obtain ⟨ih1, ih2⟩ := pass2_spec r (i + 1) (fun j => if j = i then (a.bind t).map (fun e => (e.1, false)) else t j) h.2
    refine ⟨⟨(ih2 i (Or.inl (Nat.lt_succ_self i))).trans (if_pos rfl), fun x hx => ?_⟩, fun j hj => ?_⟩
    · -- a later entry reads its source `g ≥ x.2 > i`, which this step has not touched
      rw [ih1 x hx]
      refine congrArg _ (Option.bind_congr fun g hg => if_neg ?_)
      have := h.2 x hx g hg
      have := List.le_snd_of_mem_zipIdx hx
      omega
    · exact (ih2 j (by omega)).trans (if_neg (by omega))

/-! ### what every step before pass 2 preserves -/

/-- `b` is `a` after copies to scratch slots: the pipe and the exec descriptor still reach their
files, nothing below `a.next` has changed, nothing has become inheritable. -/
structure Carries (a b : Pre) : Prop where
  next : a.next ≤ b.next
  pipe : fileAt b.t b.pipe = fileAt a.t a.pipe
  exec : b.exec.map (fileAt b.t) = a.exec.map (fileAt a.t)
  low : ∀ j, j < a.next → b.t j = a.t j
  cx : ∀ j, atExec a.t j = none → atExec b.t j = none

theorem Carries.refl (a : Pre) : Carries a a := ⟨Nat.le_refl _, rfl, rfl, fun _ _ => rfl, fun _ h => h⟩

theorem Carries.trans {a b c : Pre} (h : Carries a b) (h' : Carries b c) : Carries a c :=
  ⟨Nat.le_trans h.next h'.next, h'.pipe.trans h.pipe, h'.exec.trans h.exec,
    fun j hj => (h'.low j (Nat.lt_of_lt_of_le hj h.next)).trans (h.low j hj), fun j hj => h'.cx j (h.cx j hj)⟩

/-- a close-on-exec copy to a slot `s` from `a.next` on, given where the pipe and the exec descriptor are afterwards -/
theorem Carries.dup3 {a : Pre} {o s p : Nat} {x : Option Nat} (hs : a.next ≤ s)
    (hp : fileAt (dup3 a.t o s true) p = fileAt a.t a.pipe)
    (hx : x.map (fileAt (dup3 a.t o s true)) = a.exec.map (fileAt a.t)) :
    Carries a ⟨dup3 a.t o s true, p, x, s + 1⟩ :=
  ⟨Nat.le_succ_of_le hs, hp, hx, fun _ hj => dup3_ne (Nat.ne_of_lt (Nat.lt_of_lt_of_le hj hs)),
    fun _ => atExec_dup3_true _ _⟩

/-! ### the scratch start and the two moves before pass 1 -/

theorem scratchStart_spec (files : List (Option Nat)) :
    files.length < scratchStart files ∧ ∀ a ∈ files, ∀ f ∈ a, f < scratchStart files := by
  unfold scratchStart
  generalize files.length = acc
  induction files generalizing acc with
  | nil => exact ⟨Nat.lt_succ_self _, nofun⟩
  | cons a r ih =>
    rw [List.forall_mem_cons, List.foldl_cons]
    cases a with
    | none => exact ⟨(ih acc).1, nofun, (ih acc).2⟩
    | some k =>
      obtain ⟨h1, h2⟩ := ih (max acc k)
      exact ⟨Nat.lt_of_le_of_lt (Nat.le_max_left ..) h1,
        fun f hf => by cases hf; exact Nat.lt_of_le_of_lt (Nat.le_max_right ..) h1, h2⟩

def movePipe (a : Pre) : Pre :=
  if a.pipe < a.next then
    let n := if a.exec = some a.next then a.next + 1 else a.next
    ⟨dup3 a.t a.pipe n true, n, a.exec, n + 1⟩
  else a

def moveExec (a : Pre) : Pre :=
  match a.exec with
  | some e =>
    if e < a.next then
      let n := if a.next = a.pipe then a.next + 1 else a.next
      ⟨dup3 a.t e n true, a.pipe, some n, n + 1⟩
    else a
  | none => a

theorem prelude_eq (t : Table) (pipe : Nat) (exec : Option Nat) (next : Nat) :
    prelude t pipe exec next = moveExec (movePipe ⟨t, pipe, exec, next⟩) := rfl

theorem movePipe_spec (a : Pre) : Carries a (movePipe a) ∧ a.next ≤ (movePipe a).pipe := by
  unfold movePipe
  split
  · -- `n`: the first slot from `a.next` on that is not the exec descriptor
    generalize hn : (if a.exec = some a.next then a.next + 1 else a.next) = n
    have h1 : a.next ≤ n := by split at hn <;> omega
    have h2 : ∀ e, a.exec = some e → e ≠ n := by
      intro e he
      simp only [he, Option.some.injEq] at hn
      split at hn <;> omega
    exact ⟨.dup3 h1 (fileAt_dup3 ..) (Option.map_congr fun e he => fileAt_congr (dup3_ne (h2 e he))), h1⟩
  · exact ⟨.refl a, by omega⟩

theorem moveExec_spec (a : Pre) :
    Carries a (moveExec a) ∧ (moveExec a).pipe = a.pipe ∧ ∀ e ∈ (moveExec a).exec, a.next ≤ e := by
  unfold moveExec
  split
  · next e he =>
    split
    · -- `n`: the first slot from `a.next` on that is not the pipe
      generalize hn : (if a.next = a.pipe then a.next + 1 else a.next) = n
      have h : a.next ≤ n ∧ a.pipe ≠ n := by split at hn <;> omega
      exact ⟨.dup3 h.1 (fileAt_congr (dup3_ne h.2)) (he ▸ congrArg some (fileAt_dup3 ..)), rfl,
        fun e' he' => by cases he'; exact h.1⟩
    · exact ⟨.refl a, rfl, fun e' he' => by cases he.symm.trans he'; omega⟩
  · next he => exact ⟨.refl a, rfl, fun e' he' => by cases he.symm.trans he'⟩

theorem prelude_spec (t : Table) (pipe : Nat) (exec : Option Nat) (next : Nat) :
    Carries ⟨t, pipe, exec, next⟩ (prelude t pipe exec next) ∧ next ≤ (prelude t pipe exec next).pipe ∧
      ∀ e ∈ (prelude t pipe exec next).exec, next ≤ e := by
  rw [prelude_eq]
  obtain ⟨h1, h2⟩ := movePipe_spec ⟨t, pipe, exec, next⟩
  obtain ⟨h3, h4, h5⟩ := moveExec_spec (movePipe ⟨t, pipe, exec, next⟩)
  exact ⟨h1.trans h3, h4 ▸ h2, fun e he => Nat.le_trans h1.next (h5 e he)⟩

/-! ### pass 1 -/

theorem skip_spec (p : Nat) (e : Option Nat) (n : Nat) :
    n ≤ skip p e n ∧ p ≠ skip p e n ∧ ∀ x ∈ e, x ≠ skip p e n := by
  -- is `n` the pipe or the exec descriptor? if so, is `n + 1`? then `n + 2` is neither
  cases e with
  | none =>
    simp only [skip, reduceCtorEq, or_false]
    refine and_assoc.1 ⟨?_, nofun⟩
    split
    · split <;> omega
    · omega
  | some x =>
    simp only [skip, Option.mem_def, Option.some.injEq, forall_eq']
    split
    · split <;> omega
    · omega

theorem map_bind_fileAt_congr {l : List (Option Nat)} {t t' : Table} (h : ∀ a ∈ l, ∀ f ∈ a, t' f = t f) :
    l.map (·.bind (fileAt t')) = l.map (·.bind (fileAt t)) :=
  List.map_congr_left fun a ha => Option.bind_congr fun f hf => fileAt_congr (h a ha f hf)

theorem pass1_spec (pipe : Nat) (exec : Option Nat) (files : List (Option Nat)) (i : Nat) (t : Table) (n : Nat)
    (hsrc : ∀ a ∈ files, ∀ f ∈ a, f < n) (hlen : i + files.length ≤ n) :
    ∃ L T m, pass1 pipe exec i files t n = (L, T, m) ∧
      L.map (·.bind (fileAt T)) = files.map (·.bind (fileAt t)) ∧
      (∀ x ∈ L.zipIdx i, ∀ g ∈ x.1, x.2 ≤ g) ∧
      Carries ⟨t, pipe, exec, n⟩ ⟨T, pipe, exec, m⟩ := by
  induction files generalizing i t n with
  | nil => exact ⟨[], t, n, rfl, rfl, nofun, .refl _⟩
  | cons a r ih =>
    rw [List.forall_mem_cons] at hsrc
    rw [List.length_cons] at hlen
    by_cases hmv : ∃ f ∈ a, f < i
    · -- the source lies below its target, where pass 2 would overwrite it before reading it: it goes to a scratch slot
      obtain ⟨f, rfl, hlt⟩ := hmv
      obtain ⟨s1, s2, s3⟩ := skip_spec pipe exec n
      generalize hs : skip pipe exec n = s at s1 s2 s3
      have hC : Carries ⟨t, pipe, exec, n⟩ ⟨dup3 t f s true, pipe, exec, s + 1⟩ :=
        .dup3 s1 (fileAt_congr (dup3_ne s2)) (Option.map_congr fun e he => fileAt_congr (dup3_ne (s3 e he)))
      obtain ⟨L, T, m, hX, b1, b2, b3⟩ := ih (i + 1) (dup3 t f s true) (s + 1)
        (fun a ha g hg => by have := hsrc.2 a ha g hg; omega) (by omega)
      refine ⟨some s :: L, T, m, by simp only [pass1, if_pos hlt, hs, hX], ?_,
        List.forall_mem_cons.2 ⟨fun g hg => by cases hg; omega, b2⟩, hC.trans b3⟩
      rw [List.map_cons, List.map_cons, b1, map_bind_fileAt_congr fun a ha g hg => hC.low g (hsrc.2 a ha g hg)]
      exact congrArg (· :: _) ((fileAt_congr (b3.low s (Nat.lt_succ_self s))).trans (fileAt_dup3 ..))
    · have hge : ∀ f ∈ a, i ≤ f := fun f hf => Nat.le_of_not_lt fun hlt => hmv ⟨f, hf, hlt⟩
      obtain ⟨L, T, m, hX, b1, b2, b3⟩ := ih (i + 1) t n hsrc.2 (by omega)
      refine ⟨a :: L, T, m, ?_, ?_, List.forall_mem_cons.2 ⟨hge, b2⟩, b3⟩
      · cases a with
        | none => simp only [pass1, hX]
        | some f => simp only [pass1, if_neg (Nat.not_lt.2 (hge f rfl)), hX]
      · rw [List.map_cons, List.map_cons, b1]
        exact congrArg (· :: _) (Option.bind_congr fun f hf => fileAt_congr (b3.low f (hsrc.1 f hf)))

/-! ### the whole shuffle -/

theorem shuffle_spec (t : Table) (files : List (Option Nat)) (pipe : Nat) (exec : Option Nat) :
    (∀ k a, files[k]? = some a → atExec (shuffle t files pipe exec).t k = a.bind (fileAt t)) ∧
    (∀ k, files.length ≤ k → atExec t k = none → atExec (shuffle t files pipe exec).t k = none) ∧
    fileAt (shuffle t files pipe exec).t (shuffle t files pipe exec).pipe = fileAt t pipe ∧
    files.length ≤ (shuffle t files pipe exec).pipe ∧
    (shuffle t files pipe exec).exec.map (fileAt (shuffle t files pipe exec).t) = exec.map (fileAt t) ∧
    ∀ e ∈ (shuffle t files pipe exec).exec, files.length ≤ e := by
  obtain ⟨hlen, hsrc⟩ := scratchStart_spec files
  have hP := prelude_spec t pipe exec (scratchStart files)
  unfold shuffle
  generalize prelude t pipe exec (scratchStart files) = P at hP ⊢
  obtain ⟨hP, p1, p2⟩ := hP
  have hnext : scratchStart files ≤ P.next := hP.next
  obtain ⟨L, T, m, hX, q1, q2, q3⟩ := pass1_spec P.pipe P.exec files 0 P.t P.next
    (fun a ha f hf => Nat.lt_of_lt_of_le (hsrc a ha f hf) hnext) (by omega)
  obtain ⟨r1, r2⟩ := pass2_spec L 0 T q2
  have hL : L.length = files.length := by simpa using congrArg List.length q1
  -- pass 2 leaves every slot from the list length on as pass 1 left it
  have high : ∀ j, files.length ≤ j → pass2 0 L T j = T j := fun j hj => r2 j (Or.inr (by omega))
  have hC := hP.trans q3
  rw [map_bind_fileAt_congr fun a ha f hf => hP.low f (hsrc a ha f hf)] at q1
  simp only [hX]
  refine ⟨fun k a hk => ?_, fun k hk hcx => ?_, ?_, by omega, ?_, fun e he => by have := p2 e he; omega⟩
  · obtain ⟨b, hb, hba⟩ : ∃ b, L[k]? = some b ∧ b.bind (fileAt T) = a.bind (fileAt t) := by
      simpa [hk] using congrArg (·[k]?) q1
    rw [atExec_of_eq_map (r1 (b, k) (List.mk_mem_zipIdx_iff_getElem?.2 hb)), Option.map_bind]
    exact hba
  · rw [atExec_congr (high k hk)]
    exact hC.cx k hcx
  · rw [fileAt_congr (high _ (by omega))]
    exact hC.pipe
  · rw [← hC.exec]
    exact Option.map_congr fun e he => fileAt_congr (high e (by have := p2 e he; omega))

end GoSandbox.Lemmas.FdShuffle
