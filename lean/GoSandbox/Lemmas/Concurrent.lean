import GoSandbox.Model.Concurrent
namespace GoSandbox.Lemmas.Concurrent
open GoSandbox.Model.Concurrent

/-- invariant of the locked protocol: every reply received so far answered the receiver's own request,
and the two channels together carry nothing, or, while the holder waits for its reply, exactly the
holder's one message -/
def RInv (s : RState) : Prop :=
  (∀ e ∈ s.got, e.1 = e.2) ∧
  (s.h2c ++ s.c2h = [] ∨ s.phase = 1 ∧ ∃ a, s.holder = some a ∧ s.h2c ++ s.c2h = [a])

theorem rstep_inv {s : RState} (e : REv) (h : RInv s) : RInv (rstep true s e) := by
  obtain ⟨hg, hq⟩ := h
  cases e with
  | acquire a =>
    simp only [rstep, true_and]
    split
    · next hh =>
      refine ⟨hg, .inl ?_⟩
      rcases hq with h0 | ⟨_, b, hb, _⟩
      · exact h0
      · rw [hh] at hb; cases hb
    · exact ⟨hg, hq⟩
  | send a =>
    simp only [rstep, if_true]
    split
    · next hh =>
      refine ⟨hg, .inr ⟨rfl, a, hh.1, ?_⟩⟩
      rcases hq with h0 | ⟨h1, _⟩
      · obtain ⟨h1, h2⟩ := List.append_eq_nil_iff.mp h0
        rw [h1, h2]; rfl
      · rw [hh.2] at h1; cases h1
    · exact ⟨hg, hq⟩
  | serve =>
    simp only [rstep]
    split
    · exact ⟨hg, hq⟩
    · next r rest hr =>
      rw [hr] at hq
      rcases hq with h0 | ⟨h1, b, hb, h2⟩
      · cases h0
      · obtain ⟨rfl, h3⟩ := List.cons.inj h2
        obtain ⟨rfl, h4⟩ := List.append_eq_nil_iff.mp h3
        exact ⟨hg, .inr ⟨h1, r, hb, by rw [h4]; rfl⟩⟩
  | recv a =>
    simp only [rstep, if_true]
    split
    · next hh =>
      split
      · exact ⟨hg, hq⟩
      · next r rest hr =>
        rw [hr] at hq
        rcases hq with h0 | ⟨_, b, hb, h2⟩
        · cases List.append_eq_nil_iff.mp h0 |>.2
        · obtain rfl : b = a := Option.some.inj (hb.symm.trans hh.1)
          rcases List.append_eq_singleton_iff.mp h2 with ⟨h3, h4⟩ | ⟨_, h4⟩
          · obtain ⟨rfl, rfl⟩ := List.cons.inj h4
            exact ⟨List.forall_mem_cons.mpr ⟨rfl, hg⟩, .inl (by rw [h3]; rfl)⟩
          · cases h4
    · exact ⟨hg, hq⟩
  | release a =>
    simp only [rstep, true_and]
    split
    · next hh =>
      refine ⟨hg, .inl ?_⟩
      rcases hq with h0 | ⟨h1, _⟩
      · exact h0
      · rw [hh.2] at h1; cases h1
    · exact ⟨hg, hq⟩

end GoSandbox.Lemmas.Concurrent
