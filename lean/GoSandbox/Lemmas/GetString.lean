/-
Lemmas about Model/GetString.lean, in this order: lists (`clen`, `pad`, `takeWhile` over a range);
the tracee's bytes and pages; the loop of `vmReadStr`; `GetString`.  `getString_eq` reduces `GetString`
to the front of the buffer up to its first NUL.  What is in the buffer comes from two facts about the loop:
`readLoop_snd` (always a prefix of the tracee's bytes, whatever the page size) and `readLoop_prefix`
(which prefix, for a positive page size: the one induction that follows the page boundaries).
-/
import GoSandbox.Model.GetString
namespace GoSandbox.Lemmas.GetString
open GoSandbox.Model.GetString

theorem clen_eq (b : List Nat) : clen b = (b.takeWhile (· != 0)).length := by
  induction b with
  | nil => rfl
  | cons x xs ih => by_cases h : x = 0 <;> simp [clen, h, ih]

theorem clen_le (b : List Nat) : clen b ≤ b.length :=
  clen_eq b ▸ (List.takeWhile_sublist _).length_le

theorem take_clen (b : List Nat) : b.take (clen b) = b.takeWhile (· != 0) := by
  rw [clen_eq, ← List.prefix_iff_eq_take.mp (List.takeWhile_prefix _)]

theorem sliceTo_clen (b : List Nat) : sliceTo b (clen b) = .ok (b.takeWhile (· != 0)) := by
  rw [sliceTo, if_pos (clen_le b), take_clen]

theorem pad_length (l : List Nat) (n : Nat) (h : l.length ≤ n) : (pad l n).length = n := by
  simp [pad]; omega

theorem takeWhile_pad (l : List Nat) (n : Nat) : (pad l n).takeWhile (· != 0) = l.takeWhile (· != 0) := by
  unfold pad
  generalize n - l.length = k
  induction l with
  | nil => simp
  | cons x xs ih => simp [List.takeWhile_cons, ih]

theorem takeWhile_range {p : Nat → Bool} {n k : Nat} (hk : k ≤ n) (h₁ : ∀ i, i < k → p i = true)
    (h₂ : k < n → p k = false) : (List.range n).takeWhile p = List.range k := by
  obtain ⟨d, rfl⟩ := Nat.exists_eq_add_of_le hk
  rw [List.range_add, List.takeWhile_append_of_pos (by simpa using h₁)]
  cases d with
  | zero => simp
  | succ d => simp [List.range_succ_eq_map, h₂ (by omega)]

theorem takeWhile_bytes (m : Mem) {a t L : Nat} (hL : L ≤ t) (hnz : ∀ i, i < L → m.byte (a + i) ≠ 0)
    (h0 : L < t → m.byte (a + L) = 0) : (m.bytes a t).takeWhile (· != 0) = m.bytes a L := by
  rw [Mem.bytes, List.takeWhile_map, takeWhile_range hL (by simpa using hnz) (by simpa using h0)]; rfl

theorem bytes_append (m : Mem) (a t n : Nat) : m.bytes a t ++ m.bytes (a + t) n = m.bytes a (t + n) := by
  simp [Mem.bytes, List.range_add, Nat.add_assoc]

theorem hasNull_bytes_iff (m : Mem) (a n : Nat) : hasNull (m.bytes a n) = true ↔ ∃ i, i < n ∧ m.byte (a + i) = 0 := by
  simp [hasNull, Mem.bytes]

theorem peekPrefix_eq (m : Mem) {addr n L : Nat} (hL : L ≤ n) (hr : ∀ i, i < L → m.readable (addr + i) = true)
    (hu : L < n → m.readable (addr + L) = false) : peekPrefix m addr n = m.bytes addr L := by
  rw [peekPrefix, takeWhile_range hL hr hu]; rfl

theorem peekPrefix_eq_bytes (m : Mem) (addr n : Nat) : ∃ k, k ≤ n ∧ peekPrefix m addr n = m.bytes addr k := by
  have h := List.prefix_iff_eq_take.mp (List.takeWhile_prefix (fun i => m.readable (addr + i)) (l := List.range n))
  rw [List.take_range] at h
  exact ⟨_, Nat.min_le_right _ _, by rw [peekPrefix, h]; rfl⟩

/-- two addresses inside one chunk that does not cross a page boundary lie in the same page -/
theorem readable_add {m : Mem} {a k : Nat} (h : a % m.P + k < m.P) : m.readable (a + k) = m.readable a := by
  have := Nat.div_add_mod a m.P
  rw [Mem.readable, Mem.readable, show a + k = m.P * (a / m.P) + (a % m.P + k) by omega,
    Nat.mul_add_div (by omega), Nat.div_eq_of_lt h, Nat.add_zero]

theorem page_end_mod {P a n : Nat} (h : a % P + n = P) : (a + n) % P = 0 := by
  have := Nat.div_add_mod a P
  rw [show a + n = P * (a / P) + P by omega, Nat.mul_add_mod_self_left, Nat.mod_self]

/-- One iteration. The accumulator is always `m.bytes addr total`, so the loop is only ever stated on that. -/
theorem readLoop_succ {m : Mem} {addr fuel total next rem : Nat} (hr : rem ≠ 0) :
    readLoop m addr (fuel + 1) total rem next (m.bytes addr total) =
      if m.readable (addr + total) then
        if hasNull (m.bytes (addr + total) (min rem next)) then (false, m.bytes addr (total + min rem next))
        else readLoop m addr fuel (total + min rem next) (rem - min rem next) m.P (m.bytes addr (total + min rem next))
      else (true, m.bytes addr total) := by
  have hn : (if rem < next then rem else next) = min rem next := by split <;> omega
  simp only [readLoop, if_neg hr, hn, vmRead]
  cases m.readable (addr + total) <;> simp [bytes_append]

/-- the bytes `vmReadStr` leaves at the front of the buffer are the tracee's bytes from `addr`. -/
theorem readLoop_snd (m : Mem) (addr : Nat) : ∀ fuel total rem next,
    ∃ t, t ≤ total + rem ∧ (readLoop m addr fuel total rem next (m.bytes addr total)).2 = m.bytes addr t := by
  intro fuel
  induction fuel with
  | zero => intro total rem next; exact ⟨total, by omega, rfl⟩
  | succ fuel ih =>
    intro total rem next
    by_cases hr : rem = 0
    · exact ⟨total, by omega, by simp [readLoop, hr]⟩
    · rw [readLoop_succ hr]
      split
      · split
        · exact ⟨_, by omega, rfl⟩
        · obtain ⟨t, h1, h2⟩ := ih (total + min rem next) (rem - min rem next) m.P
          exact ⟨t, by omega, h2⟩
      · exact ⟨total, by omega, rfl⟩

/-- The buffer the loop leaves, for a string whose first `L` bytes are readable and not NUL and whose
byte `L`, if below the buffer size `N`, is unreadable or NUL: up to its first NUL it holds exactly
those `L` bytes. Invariant: `total + rem = N`, and a chunk never crosses a page boundary. -/
theorem readLoop_prefix {m : Mem} (hP : 0 < m.P) {addr N L : Nat} (hL : L ≤ N)
    (hgood : ∀ i, i < L → m.readable (addr + i) = true ∧ m.byte (addr + i) ≠ 0)
    (hstop : L < N → m.readable (addr + L) = false ∨ m.byte (addr + L) = 0) :
    ∀ fuel total rem next, total + rem = N → total ≤ L → rem ≤ fuel →
      (rem ≠ 0 → (addr + total) % m.P + next = m.P) →
      (if (readLoop m addr fuel total rem next (m.bytes addr total)).1 then peekPrefix m addr N
        else (readLoop m addr fuel total rem next (m.bytes addr total)).2).takeWhile (· != 0) = m.bytes addr L := by
  have htw : ∀ t, L ≤ t → (L < t → m.byte (addr + L) = 0) → (m.bytes addr t).takeWhile (· != 0) = m.bytes addr L :=
    fun t h1 h2 => takeWhile_bytes m h1 (fun i hi => (hgood i hi).2) h2
  intro fuel
  induction fuel with
  | zero => intro total rem next hN hl hf _; exact htw total (by omega) (by omega)
  | succ fuel ih =>
    intro total rem next hN hl hf hal
    by_cases hr : rem = 0
    · subst hr; exact htw total (by omega) (by omega)
    rw [readLoop_succ hr]
    have hal := hal hr
    -- every iteration reads at least one byte, which is why `rem ≤ fuel` is kept
    have hnext : 0 < next := by have := Nat.mod_lt (addr + total) hP; omega
    by_cases hrd : m.readable (addr + total) = true
    · rw [if_pos hrd]
      -- the chunk lies in one page, whose first byte is readable: if it reaches byte `L`, that is a NUL
      have hL0 : L < total + min rem next → m.byte (addr + L) = 0 := fun h =>
        (hstop (by omega)).resolve_left (by
          rw [show addr + L = addr + total + (L - total) by omega, readable_add (by omega), hrd]; simp)
      by_cases hz : hasNull (m.bytes (addr + total) (min rem next)) = true
      · rw [if_pos hz]
        obtain ⟨i, hi, hb⟩ := (hasNull_bytes_iff ..).mp hz
        refine htw _ (Nat.le_of_not_lt fun h => ?_) hL0
        exact (hgood (total + i) (by omega)).2 (by rw [← Nat.add_assoc]; exact hb)
      · rw [if_neg hz]
        have hend : total + min rem next ≤ L := Nat.le_of_not_lt fun h =>
          hz ((hasNull_bytes_iff ..).mpr ⟨L - total, by omega,
            by rw [show addr + total + (L - total) = addr + L by omega]; exact hL0 h⟩)
        refine ih _ _ _ (by omega) hend (by omega) fun hr' => ?_
        rw [← Nat.add_assoc, show min rem next = next by omega, page_end_mod hal]; omega
    · -- EFAULT: `total` is the first unreadable byte
      rw [if_neg hrd]
      have : total = L := Nat.le_antisymm hl (Nat.le_of_not_lt fun h => hrd (hgood total h).1)
      subst this
      rw [if_pos rfl, peekPrefix_eq m hL (fun i hi => (hgood i hi).1) (fun _ => by simpa using hrd)]
      exact htw _ (Nat.le_refl _) (by omega)

/-- `GetString` returns, up to its first NUL, what is in front of the buffer's padding: the bytes
`vmReadStr` wrote or, after EFAULT, those PTRACE_PEEKDATA could read. -/
theorem getString_eq (m : Mem) (addr pathMax : Nat) :
    getString m addr pathMax = .ok ((if (vmReadStr m addr pathMax).1 then peekPrefix m addr pathMax
      else (vmReadStr m addr pathMax).2).takeWhile (· != 0)) := by
  unfold getString getStringWith
  generalize vmReadStr m addr pathMax = v
  obtain ⟨failed, acc⟩ := v
  cases failed <;> simp [sliceTo_clen, takeWhile_pad]

theorem getString_eq_takeWhile (m : Mem) (addr pathMax : Nat) :
    ∃ n, n ≤ pathMax ∧ getString m addr pathMax = .ok ((m.bytes addr n).takeWhile (· != 0)) := by
  rw [getString_eq]
  split
  · obtain ⟨k, hk, h⟩ := peekPrefix_eq_bytes m addr pathMax
    exact ⟨k, hk, by rw [h]⟩
  · obtain ⟨t, ht, h⟩ := readLoop_snd m addr (pathMax + 1) 0 pathMax
      (if m.P - addr % m.P = 0 then m.P else m.P - addr % m.P)
    exact ⟨t, by omega, by rw [← h]; rfl⟩

/-- With a positive page size `GetString` returns exactly the longest prefix of readable non-NUL
bytes, capped at `pathMax`, wherever the page boundaries fall. -/
theorem getString_prefix {m : Mem} (hP : 0 < m.P) {addr pathMax L : Nat} (hL : L ≤ pathMax)
    (hgood : ∀ i, i < L → m.readable (addr + i) = true ∧ m.byte (addr + i) ≠ 0)
    (hstop : L < pathMax → m.readable (addr + L) = false ∨ m.byte (addr + L) = 0) :
    getString m addr pathMax = .ok (m.bytes addr L) := by
  rw [getString_eq]
  refine congrArg _ (readLoop_prefix hP hL hgood hstop (pathMax + 1) 0 pathMax _
    (by omega) (by omega) (by omega) fun _ => ?_)
  have := Nat.mod_lt addr hP
  rw [Nat.add_zero]
  split <;> omega

end GoSandbox.Lemmas.GetString
