import GoSandbox.Model.SocketGen
namespace GoSandbox.Lemmas.SocketGen
open GoSandbox.Model.Socket GoSandbox.Model.SocketGen

/-- `agrees` on what the kernel returned (`tr`, `ctr`: which of MSG_TRUNC and MSG_CTRUNC it set): the
regenerated code sees the packet and the buffers through that only -/
def agreesOn (r : Recv) (tr ctr passcred : Bool) : Bool :=
  match genRecv r.data.length
      ((if tr then Gen.Consts.syscall_MSG_TRUNC else 0) + (if ctr then Gen.Consts.syscall_MSG_CTRUNC else 0))
      (cmsgsOf r passcred) with
  | .ok ((n, fds, cred, isErr), closed) =>
    if tr || ctr then isErr && n == 0 && fds.isEmpty && closed == r.files
    else !isErr && n == r.data.length && fds == r.files && closed.isEmpty && cred == passcred
  | .error _ => false

theorem agrees_eq (p : Packet) (dcap fcap : Nat) (passcred : Bool) :
    agrees p dcap fcap passcred =
      agreesOn (krecv p dcap fcap) (p.data.length > dcap) (p.files.length > fcap) passcred := by
  simp only [agrees, agreesOn, recvMsg, krecv, decide_eq_true_eq]
  generalize genRecv _ _ _ = g
  cases decide (p.data.length > dcap) || decide (p.files.length > fcap) <;>
    rcases g with _ | ⟨⟨n, fds, cred, e⟩, cl⟩ <;> simp

end GoSandbox.Lemmas.SocketGen
