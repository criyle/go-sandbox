import GoSandbox.Model.Socket
namespace GoSandbox.Lemmas.Socket
open GoSandbox.Model.Socket

variable {s : RState} {p : Packet} {r : List Packet} (b : Bool) {d f : Nat}

theorem recvMsg_nil (d f : Nat) (h : s.queue = []) : recvMsg b s d f = (.empty, s) := by
  simp only [recvMsg, h]

theorem recvMsg_fits (h : s.queue = p :: r) (hd : p.data.length ≤ d) (hf : p.files.length ≤ f) :
    recvMsg b s d f = (.msg p.data p.files p.cred, ⟨r, s.leaked⟩) := by
  simp [recvMsg, h, krecv, Nat.not_lt.mpr hd, Nat.not_lt.mpr hf, List.take_of_length_le hd, List.take_of_length_le hf]

theorem recvMsg_trunc (h : s.queue = p :: r) (ht : p.data.length > d ∨ p.files.length > f) :
    recvMsg b s d f = (.truncated, ⟨r, if b then s.leaked else s.leaked ++ p.files.take f⟩) := by
  simp [recvMsg, h, krecv, ht]

theorem recvMsg_true_leaked (s : RState) (d f : Nat) : (recvMsg true s d f).2.leaked = s.leaked := by
  simp only [recvMsg]
  split
  · rfl
  · split <;> rfl

theorem run_send (p : Packet) (rest : List Op) (s : RState) :
    run b (.send p :: rest) s =
      if p.files.length > scmMaxFd then run b rest s
      else (p :: (run b rest { s with queue := s.queue ++ [p] }).1, (run b rest { s with queue := s.queue ++ [p] }).2) := by
  by_cases h : p.files.length > scmMaxFd <;> simp [run, send, h]

theorem run_true_leaked (ops : List Op) : ∀ s, (run true ops s).2.2.leaked = s.leaked := by
  induction ops with
  | nil => intro s; rfl
  | cons op rest ih =>
    intro s
    cases op with
    | send p => rw [run_send]; split <;> exact ih _
    | recv d f => exact (ih _).trans (recvMsg_true_leaked s d f)

-- three alternatives on purpose: Lean shares matchers of the same shape, and a match `| .msg .. | _` here would
-- give its name (`ROut.packet?.match_1`) to the one in the statement of `Props.C19.C19_fifo`
def ROut.packet? : ROut → Option Packet
  | .msg d f c => some ⟨d, f, c⟩
  | .truncated | .empty => none

/-- FIFO as an equation, for either `closeOnReject`: if every receive buffer of a history holds every packet
queued at its start or sent in it, then what is received, followed by what is still in flight at the end, is
what was queued at the start followed by what is sent. -/
theorem run_fifo (ops : List Op) : ∀ s,
    (∀ d f, .recv d f ∈ ops → ∀ p, p ∈ s.queue ∨ .send p ∈ ops → p.data.length ≤ d ∧ p.files.length ≤ f) →
    (run b ops s).2.1.filterMap ROut.packet? ++ (run b ops s).2.2.queue = s.queue ++ (run b ops s).1 := by
  induction ops with
  | nil => intro s _; simp [run]
  | cons op rest ih =>
    intro s h
    -- the rest of the history, from a state with nothing new in its queue
    have ih' (s' : RState) (hs' : ∀ q ∈ s'.queue, q ∈ s.queue) :=
      ih s' fun d f hr q hq => h d f (.tail _ hr) q (hq.imp (hs' q) (.tail _))
    cases op with
    | send p =>
      rw [run_send]
      split
      · exact ih' s fun _ => id
      · simpa using ih { s with queue := s.queue ++ [p] } fun d f hr q hq =>
          h d f (.tail _ hr) q (by simpa [or_assoc] using hq)
    | recv d f =>
      cases hs : s.queue with
      | nil => simpa [run, recvMsg_nil b d f hs, List.filterMap_cons, ROut.packet?, hs] using ih' s fun _ => id
      | cons p r =>
        have hp := h d f (.head _) p (.inl (hs ▸ .head _))
        simpa [run, recvMsg_fits b hs hp.1 hp.2, List.filterMap_cons, ROut.packet?] using
          ih' ⟨r, s.leaked⟩ fun q hq => hs ▸ .tail _ hq

end GoSandbox.Lemmas.Socket
