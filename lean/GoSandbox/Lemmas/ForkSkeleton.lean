/- `Model.ForkSkeleton.skeleton` as a multiset (how often each step occurs, for every option set), and the
place of the trace block in it (used by Props/C04.lean and Props/C16.lean) -/
import GoSandbox.Model.ForkSkeleton
namespace GoSandbox.Lemmas.ForkSkeleton
open GoSandbox.Model.ForkOpts GoSandbox.Model.ForkSkeleton

theorem count_opt (a : Step) (b : Bool) (l : List Step) : (opt b l).count a = if b then l.count a else 0 := by
  cases b <;> simp [opt]

theorem count_mountSteps (o : Opts) (s : Step) : (mountSteps o).count s =
    o.nMounts * ([Step.mkdirat, .mount] ++ opt o.roBindMount [.statfs, .mount_remount]).count s := by
  simp [mountSteps, List.count_flatMap, Function.comp_def, List.map_const']

/-- the number of times step `s` occurs in `skeleton o` (`count_skeleton`) -/
def mult (o : Opts) : Step → Nat
  | .clone => (!o.cgroupFd).toNat
  | .clone3 => o.cgroupFd.toNat
  | .close_p0 | .getpid | .setsid => 1
  | .read_idmap => o.newUser.toNat
  | .prctl_securebits_keep => (o.cred || o.ucas).toNat
  | .setgroups => (o.cred && (!(o.gidMappings && !o.enableSetgroups && o.groups == 0) && !o.noSetGroups)).toNat
  | .setgid | .setuid => o.cred.toNat
  | .ioctl_ctty => o.ctty.toNat
  | .mount_private => o.newNs.toNat
  | .mount_tmpfs_root | .chdir_root | .mkdirat_old_root | .pivot_root | .umount2 | .unlinkat | .mount_ro_root => o.pivot.toNat
  | .mkdirat | .mount => o.nMounts
  | .statfs | .mount_remount => o.nMounts * o.roBindMount.toNat
  | .sethostname => o.hostname.toNat
  | .setdomainname => o.domainname.toNat
  | .chdir_workdir => o.workdir.toNat
  | .prlimit64 => o.nRlimits
  | .prctl_nnp => (o.nnp || o.seccomp).toNat
  | .prctl_securebits_noroot | .capset => (o.cred || o.dropCaps).toNat
  | .write_sync | .read_sync => o.syncFunc.toNat
  | .unshare_cgroup => o.ucas.toNat
  | .prctl_pdeathsig | .ptrace_traceme => o.ptrace.toNat
  | .getppid => (o.ptrace && !o.newPid).toNat
  | .kill_stop => (o.stopBefore || (o.seccomp && o.ptrace)).toNat
  | .seccomp => o.seccomp.toNat
  | .execve => (!decide (o.execFile > 0)).toNat
  | .execveat => (decide (o.execFile > 0)).toNat
  | .other _ => 0

theorem count_skeleton (o : Opts) (s : Step) : (skeleton o).count s = mult o s := by
  have cons (x : Step) (l : List Step) : (x :: l).count s = l.count s + if x = s then 1 else 0 := by
    simp [List.count_cons]
  have repl (x : Step) (n : Nat) : (List.replicate n x).count s = if x = s then n else 0 := by
    simp [List.count_replicate]
  -- one pass with `s` a variable: a sum with one guarded `if x = s then 1 else 0` per position of the skeleton
  unfold skeleton
  simp only [syncBlock, tracemeSteps, count_mountSteps, List.count_append, count_opt, cons, repl, List.count_nil,
    Nat.zero_add]
  -- for each `s` only its own positions are left (`simp only`: plain `simp` costs twice as much on a sum this size)
  cases s <;> simp only [mult, reduceCtorEq, ↓reduceIte, ite_self, Nat.add_zero, Nat.zero_add, Nat.mul_zero,
    Nat.mul_one, Bool.toNat, Bool.cond_eq_ite]
  case setgroups => cases o.cred <;> simp
  -- the steps of the two sync blocks and the two trace blocks: exactly one of each pair of guards holds
  all_goals cases o.ptrace <;> cases o.seccomp <;> cases o.ucas <;> simp [or_comm]

theorem mem_skeleton {o : Opts} {s : Step} : s ∈ skeleton o ↔ mult o s ≠ 0 := by
  rw [← count_skeleton, Nat.ne_zero_iff_zero_lt, List.count_pos_iff]

theorem tracemeSteps_infix (o : Opts) (h : o.ptrace = true) : tracemeSteps o <:+: skeleton o := by
  unfold skeleton
  -- all that comes before the block is one subterm of the skeleton, with a filter and without
  cases o.seccomp
  · generalize (_ ++ opt (!o.ptrace || _) _) = A
    exact ⟨A, _, by simp only [h, opt, Bool.not_false, Bool.and_self, ↓reduceIte, List.append_assoc]; rfl⟩
  · generalize (_ ++ opt ((o.cred || o.dropCaps) && !o.ucas) _) = A
    exact ⟨A ++ syncBlock o false, _, by simp only [h, opt, Bool.and_self, ↓reduceIte, List.append_assoc]; rfl⟩

/-- with ptrace on, for every option set: the first `prctl_pdeathsig` is followed directly by the parent check
(unless the pid namespace is new) and by the first `ptrace_traceme` -/
theorem findIdx?_traceme (o : Opts) (h : o.ptrace = true) :
    ∃ i, (skeleton o).findIdx? (· == .prctl_pdeathsig) = some i ∧
      (skeleton o).findIdx? (· == .ptrace_traceme) = some (i + if o.newPid then 1 else 2) ∧
      (o.newPid = false → (skeleton o)[i + 1]? = some .getppid) := by
  obtain ⟨A, B, hAB⟩ := tracemeSteps_infix o h
  -- a step that occurs once in the skeleton and once in the block does not occur before the block
  have hA (s : Step) (hs : (tracemeSteps o).count s = 1) (hp : mult o s = 1) : A.findIdx? (· == s) = none := by
    have := count_skeleton o s
    rw [← hAB, List.count_append, List.count_append] at this
    have : s ∉ A := List.count_eq_zero.mp (by omega)
    exact List.findIdx?_eq_none_iff.mpr fun x hx => beq_eq_false_iff_ne.mpr fun hxs => this (hxs ▸ hx)
  have h1 := hA .prctl_pdeathsig (by simp [tracemeSteps, count_opt]) (by simp [mult, h])
  have h2 := hA .ptrace_traceme (by simp [tracemeSteps, count_opt]) (by simp [mult, h])
  refine ⟨A.length, ?_, ?_, ?_⟩
  · simp [← hAB, h1, tracemeSteps, List.findIdx?_cons]
  · cases hn : o.newPid <;> simp [← hAB, h2, hn, tracemeSteps, opt, List.findIdx?_cons] <;> omega
  · intro hn
    simp [← hAB, hn, tracemeSteps, opt]

end GoSandbox.Lemmas.ForkSkeleton
