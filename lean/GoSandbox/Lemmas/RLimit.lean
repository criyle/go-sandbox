/-
What `prepare` and `applyEntries` of Model/RLimit.lean compute: `prepare r` is a concatenation of seven
optional entries, one per resource, in a fixed order; `applyEntries` applies entries front to back.
-/
import GoSandbox.Model.RLimit
namespace GoSandbox.Lemmas.RLimit
open GoSandbox.Model.RLimit List

theorem mem_prepare {r : RLimits} {e : Entry} : e ∈ prepare r ↔
    r.cpu > 0 ∧ e = (rCPU, r.cpu, max r.cpuHard r.cpu) ∨ r.data > 0 ∧ e = (rDATA, r.data, r.data) ∨
    r.fileSize > 0 ∧ e = (rFSIZE, r.fileSize, r.fileSize) ∨ r.stack > 0 ∧ e = (rSTACK, r.stack, r.stack) ∨
    r.addressSpace > 0 ∧ e = (rAS, r.addressSpace, r.addressSpace) ∨
    r.openFile > 0 ∧ e = (rNOFILE, r.openFile, r.openFile) ∨ r.disableCore = true ∧ e = (rCORE, 0, 0) := by
  have hmax : (if r.cpuHard < r.cpu then r.cpu else r.cpuHard) = max r.cpuHard r.cpu := by
    split <;> omega
  simp only [prepare, hmax, mem_append, mem_ite_nil_right, mem_singleton, or_assoc]

theorem keys_nodup : [rCPU, rDATA, rFSIZE, rSTACK, rAS, rNOFILE, rCORE].Nodup := by decide

theorem map_opt_sublist {α β} (f : α → β) (c : Prop) [Decidable c] (x : α) :
    (if c then [x] else []).map f <+ [f x] := by
  split
  · exact .refl _
  · exact nil_sublist _

theorem prepare_keys_sublist (r : RLimits) :
    (prepare r).map (·.1) <+ [rCPU, rDATA, rFSIZE, rSTACK, rAS, rNOFILE, rCORE] := by
  simp only [prepare, map_append]
  exact ((((((map_opt_sublist ..).append (map_opt_sublist ..)).append (map_opt_sublist ..)).append
    (map_opt_sublist ..)).append (map_opt_sublist ..)).append (map_opt_sublist ..)).append (map_opt_sublist ..)

theorem applyEntries_cons (init : Nat → Nat × Nat) (e : Entry) (es : List Entry) :
    applyEntries init (e :: es) =
      applyEntries (fun res => if res = e.1 then (e.2.1, e.2.2) else init res) es := rfl

end GoSandbox.Lemmas.RLimit
