/-
Lemmas about Model/MountNS.lean: the equations of `run`, what each kind of operation does to a
namespace, and one relation, `Ext`, under which the blocks of `opsFor` compose.
-/
import GoSandbox.Model.MountNS
namespace GoSandbox.Lemmas.MountNS
open GoSandbox.Model.MountNS

variable {a b c ns ns' : NS} {o : Op} {ops ops' : List Op}

/-! ### `run` -/

theorem run_nil (ns : NS) : run [] ns = some ns := rfl

theorem run_cons (o : Op) (ops : List Op) (ns : NS) : run (o :: ops) ns = (applyOp ns o).bind (run ops) := rfl

theorem run_singleton (o : Op) (ns : NS) : run [o] ns = applyOp ns o := Option.bind_fun_some _

theorem run_append (ops ops' : List Op) (ns : NS) : run (ops ++ ops') ns = (run ops ns).bind (run ops') := by
  simp only [run, List.foldlM_append]
  rfl

theorem run_cons_eq_some : run (o :: ops) ns = some ns' ↔ ∃ mid, applyOp ns o = some mid ∧ run ops mid = some ns' := by
  rw [run_cons, Option.bind_eq_some_iff]

theorem run_append_eq_some :
    run (ops ++ ops') ns = some ns' ↔ ∃ mid, run ops ns = some mid ∧ run ops' mid = some ns' := by
  rw [run_append, Option.bind_eq_some_iff]

/-! ### a mount added at the end of the list -/

theorem posAux_append (l : List Mnt) (m : Mnt) :
    ∀ j cur, posAux (l ++ [m]) j cur = remap m (j + l.length) (posAux l j cur) := by
  induction l with
  | nil => intro j cur; simp [posAux]
  | cons x r ih =>
    intro j cur
    simp only [List.cons_append, posAux, List.length_cons, ih]
    rw [Nat.add_right_comm, Nat.add_assoc]

theorem setRo_append_last (l : List Mnt) (m : Mnt) (ro : Bool) :
    setRo (l ++ [m]) l.length ro = l ++ [{ m with ro := ro }] := by
  induction l with
  | nil => simp [setRo]
  | cons x r ih => simp [setRo, ih]

/-- the mount that `Op.mount` appends: attached where its target resolves to -/
abbrev newMnt (ns : NS) (t : Path) (fs : Fs) (ro : Bool) : Mnt := ⟨(lookup ns t).1, (lookup ns t).2, t, fs, ro⟩

/-- a target resolves into the mount just made on it (with no root yet, that mount is index 0) -/
theorem lookup_after_mount (ns : NS) (t : Path) (fs : Fs) (ro : Bool) :
    (lookup { ns with mounts := ns.mounts ++ [newMnt ns t fs ro] } t).1 = ns.mounts.length := by
  simp only [lookup, posAux_append, Nat.zero_add, remap]
  -- the new mount is attached exactly where `t` resolved to, so `remap` applies, except at index 0, which it never enters
  by_cases h : ns.mounts.length = 0
  · rw [if_neg fun h' => h'.1 h, List.eq_nil_of_length_eq_zero h]; rfl
  · exact congrArg Prod.fst (if_pos ⟨h, trivial, List.isPrefixOf_iff_prefix.2 (List.prefix_refl _)⟩)

/-- a mount, followed for a read-only bind by the remount that sets the bit the bind ignored -/
theorem run_mount_remount {t : Path} {fs : Fs} {bd ro : Bool}
    (h : run (Op.mount t fs bd ro :: if bd && ro then [Op.remount t true true] else []) ns = some ns') :
    ns' = { ns with mounts := ns.mounts ++ [newMnt ns t fs ro] } := by
  match bd, ro with
  | true, true =>
    -- the bind came out writable; the remount resolves `t` to it and sets its bit
    simp only [Bool.and_self, if_true, run_cons_eq_some, run_nil, applyOp, Option.some.injEq,
      Option.ite_none_right_eq_some] at h
    obtain ⟨_, rfl, _, ⟨-, rfl⟩, rfl⟩ := h
    simp only [lookup_after_mount, setRo_append_last]
  | true, false | false, _ => cases h; rfl

/-! ### what a block of operations adds -/

/-- `b` is `a` with mounts appended that are seen as `V`, the links `L` appended, and directories made
in the root that all satisfy `P`; nothing else differs. -/
def Ext (P : Path → Prop) (V : List (Path × Fs × Bool)) (L : List (Path × String)) (a b : NS) : Prop :=
  ∃ M ds, b = { a with mounts := a.mounts ++ M, dirs := ds, links := a.links ++ L } ∧ M.map view = V ∧
    ∀ d ∈ ds, d ∈ a.dirs ∨ P d

variable {P : Path → Prop} {V W : List (Path × Fs × Bool)} {L L' : List (Path × String)}

theorem Ext.refl (a : NS) : Ext P [] [] a a := ⟨[], a.dirs, by simp, rfl, fun _ => Or.inl⟩

theorem Ext.trans (h1 : Ext P V L a b) (h2 : Ext P W L' b c) : Ext P (V ++ W) (L ++ L') a c := by
  obtain ⟨M1, ds1, rfl, rfl, hd1⟩ := h1
  obtain ⟨M2, ds2, rfl, rfl, hd2⟩ := h2
  exact ⟨M1 ++ M2, ds2, by simp, by simp, fun d hd => (hd2 d hd).elim (hd1 d) Or.inr⟩

/-- with no mount and no link added, only `dirs` differs -/
theorem Ext.dirs_only (h : Ext P [] [] a b) : ∃ ds, b = { a with dirs := ds } ∧ ∀ d ∈ ds, d ∈ a.dirs ∨ P d := by
  obtain ⟨M, ds, rfl, hM, hd⟩ := h
  rw [List.map_eq_nil_iff.mp hM]
  exact ⟨ds, by simp, hd⟩

theorem applyOp_mknod (ns : NS) (p : Path) : applyOp ns (.mknod p) = applyOp ns (.mkdir p) := rfl

/-- mkdir: at most one new directory, and only in a writable root -/
theorem Ext.mkdir {p : Path} (hp : P p) (h : applyOp a (.mkdir p) = some b) : Ext P [] [] a b := by
  simp only [applyOp] at h
  split at h
  · cases h; exact .refl a
  · split at h
    · split at h
      · cases h
        exact ⟨[], _, by simp, rfl, List.forall_mem_append.2 ⟨fun _ => .inl, List.forall_mem_singleton.2 (.inr hp)⟩⟩
      · cases h
    · cases h; exact .refl a

theorem Ext.symlink {p : Path} {t : String} (h : applyOp a (.symlink p t) = some b) : Ext P [] [(p, t)] a b := by
  simp only [applyOp, Option.ite_none_right_eq_some, Option.some.injEq] at h
  obtain ⟨-, rfl⟩ := h
  exact ⟨[], _, by simp, rfl, fun _ => Or.inl⟩

theorem Ext.mount {t : Path} {fs : Fs} {bd ro : Bool} (h : applyOp a (.mount t fs bd ro) = some b) :
    Ext P [(t, fs, if bd then false else ro)] [] a b := by
  cases h
  exact ⟨[newMnt a t fs (if bd then false else ro)], _, by simp [lookup], rfl, fun _ => Or.inl⟩

/-- the four operations around pivot_root: the host's tree is detached, `old_root` is gone again -/
theorem run_pivot (h : run [.mkdirOld, .pivot, .umountOld, .rmdirOld] a = some b) :
    ∃ ds, b = { a with host := none, pivoted := true, dirs := ds } ∧ ∀ d ∈ ds, d ∈ a.dirs := by
  simp only [run_cons_eq_some, applyOp, Option.ite_none_right_eq_some, Option.some.injEq, run_nil] at h
  obtain ⟨_, ⟨-, rfl⟩, _, ⟨-, rfl⟩, _, ⟨-, rfl⟩, _, ⟨-, rfl⟩, rfl⟩ := h
  refine ⟨_, rfl, fun d hd => ?_⟩
  obtain ⟨h1, h2⟩ := List.mem_filter.mp hd
  exact (List.mem_append.mp h1).resolve_right (by simpa using h2)

theorem flatMap_const_nil {α β : Type} (l : List α) : l.flatMap (fun _ => ([] : List β)) = [] :=
  List.flatMap_eq_nil_iff.mpr fun _ _ => rfl

/-- a list of blocks adds what its blocks add -/
theorem Ext.flatMap {α : Type} {f : α → List Op} {V : α → List (Path × Fs × Bool)} {L : α → List (Path × String)} :
    ∀ (l : List α) {a b : NS}, (∀ x ∈ l, ∀ {a b}, run (f x) a = some b → Ext P (V x) (L x) a b) →
      run (l.flatMap f) a = some b → Ext P (l.flatMap V) (l.flatMap L) a b
  | [], a, b, _, h => by cases h; exact .refl a
  | x :: l, a, b, step, h => by
    rw [List.flatMap_cons, run_append_eq_some] at h
    obtain ⟨mid, h1, h2⟩ := h
    exact (step x (.head _) h1).trans (Ext.flatMap l (fun y hy => step y (.tail _ hy)) h2)

theorem run_mkdirs (ps : List Path) (hP : ∀ p ∈ ps, P p) (h : run (ps.map .mkdir) a = some b) : Ext P [] [] a b := by
  simpa [flatMap_const_nil] using
    Ext.flatMap ps (fun p hp _ _ h => Ext.mkdir (hP p hp) (run_singleton _ _ ▸ h)) (List.map_eq_flatMap ▸ h)

/-! ### the blocks of `opsFor` -/

/-- **one table entry**: exactly one mount is added, with the declared read-only bit — for a read-only
bind thanks to the remount, which lands on the mount just made — and only prefixes of its target are
created. -/
theorem run_opsForMount (m : MSpec) (h : run (opsForMount m) a = some b) :
    ∃ ds, b = { a with mounts := a.mounts ++ [newMnt a m.target m.fs m.rdonly], dirs := ds } ∧
      ∀ d ∈ ds, d ∈ a.dirs ∨ d ∈ m.target :: prefixes m.target := by
  simp only [opsForMount, List.append_assoc, List.singleton_append, run_append_eq_some] at h
  obtain ⟨mid, h1, h2⟩ := h
  have e : Ext (· ∈ m.target :: prefixes m.target) [] [] a mid := by
    split at h1
    · obtain ⟨c, h3, h4⟩ := run_append_eq_some.mp h1
      rw [run_singleton, applyOp_mknod] at h4
      exact (run_mkdirs _ (fun p hp => .tail _ (List.dropLast_subset _ hp)) h3).trans (.mkdir (.head _) h4)
    · exact run_mkdirs _ (fun p hp => .tail _ hp) h1
  obtain ⟨ds, rfl, hd⟩ := e.dirs_only
  exact ⟨ds, run_mount_remount h2, hd⟩

theorem ext_opsForMount (m : MSpec) (hP : ∀ d ∈ m.target :: prefixes m.target, P d)
    (h : run (opsForMount m) a = some b) : Ext P [(m.target, m.fs, m.rdonly)] [] a b := by
  obtain ⟨ds, rfl, hd⟩ := run_opsForMount m h
  exact ⟨[newMnt a m.target m.fs m.rdonly], ds, by simp, rfl, fun d hd' => (hd d hd').imp_right (hP d)⟩

theorem ext_symlink (l : Path × String) (hP : ∀ d ∈ prefixes l.1.dropLast, P d)
    (h : run ((prefixes l.1.dropLast).map Op.mkdir ++ [Op.symlink l.1 l.2]) a = some b) : Ext P [] [l] a b := by
  obtain ⟨mid, h1, h2⟩ := run_append_eq_some.mp h
  exact (run_mkdirs _ hP h1).trans (.symlink (run_singleton _ _ ▸ h2))

/-- **what the whole sequence builds**, when it succeeds: the root tmpfs, read-only, followed by mounts
seen as the table's entries and the masks; the host's tree detached; the symlinks; and in the root only
prefixes of the targets and of the symlinks' paths. -/
theorem run_opsFor {ms : List MSpec} {x : Extra} (h : run (opsFor ms x) {} = some ns') :
    ∃ M ds, ns' = { mounts := ⟨0, [], [], .rootTmpfs, true⟩ :: M, host := none, dirs := ds, links := x.symlinks,
                    pivoted := true, priv := true } ∧
      M.map view = ms.map (fun m => (m.target, m.fs, m.rdonly)) ++
        x.masks.map (fun k => (k.1, if k.2 then Fs.emptyTmpfs else Fs.devnull, k.2)) ∧
      ∀ d ∈ ds, (∃ m ∈ ms, d ∈ m.target :: prefixes m.target) ∨ ∃ l ∈ x.symlinks, d ∈ prefixes l.1.dropLast := by
  let P d := (∃ m ∈ ms, d ∈ m.target :: prefixes m.target) ∨ ∃ l ∈ x.symlinks, d ∈ prefixes l.1.dropLast
  simp only [opsFor, List.append_assoc, run_append_eq_some, run_singleton] at h
  -- `⟨⟩`: `makePrivate` and `mountRoot` on the empty namespace, and `remountRootRo` at the end, just compute
  obtain ⟨_, ⟨⟩, _, ⟨⟩, s2, h2, s3, h3, s4, h4, s5, h5, ⟨⟩⟩ := h
  obtain ⟨M, ds, rfl, hM, hd⟩ :=
    Ext.flatMap (P := P) ms (fun m hm _ _ => ext_opsForMount m fun d hd => .inl ⟨m, hm, hd⟩) h2
  obtain ⟨ds', rfl, hd'⟩ := run_pivot h3
  obtain ⟨M', ds'', rfl, hM', hd''⟩ :=
    (Ext.flatMap (P := P) _ (fun l hl _ _ => ext_symlink l fun d hd => .inr ⟨l, hl, hd⟩) h4).trans
      (Ext.flatMap _ (fun k _ _ _ h => .mount (run_singleton _ _ ▸ h)) (List.map_eq_flatMap ▸ h5))
  refine ⟨M ++ M', ds'', by simp [setRo, flatMap_const_nil],
    by simp [hM, hM', ← List.map_eq_flatMap, flatMap_const_nil], fun d h => ?_⟩
  exact (hd'' d h).elim (fun h => (hd d (hd' d h)).elim nofun id) id

end GoSandbox.Lemmas.MountNS
